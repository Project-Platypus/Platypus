import PlatypusModel.Model.Gray
import PlatypusModel.Model.Dominance
import PlatypusModel.Lemmas.Gray
import PlatypusModel.Lemmas.C17Base
import PlatypusModel.Lemmas.GrayAdj
import PlatypusModel.Props.C17
import PlatypusModel.Props.C02
import PlatypusModel.Props.C03
import PlatypusModel.Model.Constraint
import PlatypusModel.Model.PyFloat
import PlatypusModel.Props.C11
import PlatypusModel.Model.Epsilon
import PlatypusModel.Model.Sorting
import PlatypusModel.Props.C05
import PlatypusModel.Props.C04
import PlatypusModel.Model.Grid
import PlatypusModel.Model.Run
import PlatypusModel.Lemmas.Grid
import PlatypusModel.Props.C14
import PlatypusModel.Props.C08
import PlatypusModel.Model.Survival
import PlatypusModel.Model.Machine
import PlatypusModel.Lemmas.Survival
import PlatypusModel.Props.C09
import PlatypusModel.Model.Operators
import PlatypusModel.Model.OperatorsFloat
import PlatypusModel.Model.Parallel
import PlatypusModel.Lemmas.C06Defs
import PlatypusModel.Lemmas.C06Perm
import PlatypusModel.Lemmas.C06Tape
import PlatypusModel.Lemmas.C06Outcome
import PlatypusModel.Props.C01
import PlatypusModel.Props.C07
import PlatypusModel.Props.C06
import PlatypusModel.Props.C13
import PlatypusModel.Model.Indicators
import PlatypusModel.Lemmas.MinMax
import PlatypusModel.Model.LinAlg
import PlatypusModel.Lemmas.Parallel
import PlatypusModel.Lemmas.Hypervolume
import PlatypusModel.Props.C12
import PlatypusModel.Props.C10
import PlatypusModel.Props.C15
import PlatypusModel.Lemmas.Indicators
import PlatypusModel.Props.C16
import PlatypusModel.Model.Codec
import PlatypusModel.Props.C20
import PlatypusModel.Model.Problems
import PlatypusModel.Props.C19
import PlatypusModel.Model.WFG
import PlatypusModel.Props.C18
import PlatypusModel.Props.C18Real
import PlatypusModel.Props.C18WFG
import PlatypusModel.Props.C05Fix
import PlatypusModel.Props.C05Transfer
import PlatypusModel.Model.UF
import PlatypusModel.Model.CF
import PlatypusModel.Props.C18UF
import PlatypusModel.Props.C10Ind
import PlatypusModel.Props.C14Num
import PlatypusModel.Model.SPEA2
import PlatypusModel.Props.C09SPEA2
import PlatypusModel.Props.Wire
import PlatypusModel.Model.Directions
import PlatypusModel.Props.C02Decl
import PlatypusModel.Props.C06Multi
import PlatypusModel.Model.NSGA3
import PlatypusModel.Props.C09NSGA3
import PlatypusModel.Model.UFRot
import PlatypusModel.Props.C18Rot
import PlatypusModel.Props.C06MultiProb
import PlatypusModel.Props.C07Loop
import PlatypusModel.Model.Crowding
import PlatypusModel.Props.C04Crowding
import PlatypusModel.Model.GenStep
import PlatypusModel.Model.Restart
import PlatypusModel.Model.TimeCont
import PlatypusModel.Props.C08Gen
import PlatypusModel.Model.HVFit
import PlatypusModel.Props.C10Fit
import PlatypusModel.Props.C08Restart
import PlatypusModel.Props.C08TimeCont
