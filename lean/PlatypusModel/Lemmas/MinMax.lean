import PlatypusModel.Model.Indicators
import Mathlib.Order.MinMax
import Mathlib.Data.List.Forall2
/-!
# Minimum and maximum of a list, as the models compute them

`xs.foldl min x`, `xs.foldl max x` and Python's `min(list)` / `max(list)` (`pyMinList`, `pyMaxList`) over any linear
order.  Every `max` fact is the `min` fact read in the order dual.
-/
namespace Platypus

variable {α β : Type} [LinearOrder α] [LinearOrder β]

theorem foldl_min_spec (x : α) (xs : List α) : xs.foldl min x ∈ x :: xs ∧ ∀ b ∈ x :: xs, xs.foldl min x ≤ b :=
  List.min?_eq_some_iff.1 List.min?_cons' -- `(x :: xs).min? = some (xs.foldl min x)`

theorem foldl_max_spec (x : α) (xs : List α) : xs.foldl max x ∈ x :: xs ∧ ∀ b ∈ x :: xs, b ≤ xs.foldl max x :=
  foldl_min_spec (α := αᵒᵈ) x xs

theorem pyMinList_cons (d x : α) (xs : List α) : pyMinList d (x :: xs) = xs.foldl min x := by
  show xs.foldl (fun m y => if y < m then y else m) x = xs.foldl min x
  congr 1
  funext m y
  split
  · next h => exact (min_eq_right h.le).symm
  · next h => exact (min_eq_left (not_lt.mp h)).symm

theorem pyMaxList_cons (d x : α) (xs : List α) : pyMaxList d (x :: xs) = xs.foldl max x :=
  pyMinList_cons (α := αᵒᵈ) d x xs

theorem pyMinList_spec (d : α) {l : List α} (hl : l ≠ []) : pyMinList d l ∈ l ∧ ∀ b ∈ l, pyMinList d l ≤ b := by
  obtain ⟨x, xs, rfl⟩ := List.exists_cons_of_ne_nil hl
  exact pyMinList_cons d x xs ▸ foldl_min_spec x xs

theorem pyMaxList_spec (d : α) {l : List α} (hl : l ≠ []) : pyMaxList d l ∈ l ∧ ∀ b ∈ l, b ≤ pyMaxList d l :=
  pyMinList_spec (α := αᵒᵈ) d hl

theorem pyMinList_le (d : α) {l : List α} {x : α} (hx : x ∈ l) : pyMinList d l ≤ x :=
  (pyMinList_spec d (List.ne_nil_of_mem hx)).2 x hx

theorem le_pyMaxList (d : α) {l : List α} {x : α} (hx : x ∈ l) : x ≤ pyMaxList d l := pyMinList_le (α := αᵒᵈ) d hx

theorem exists_pyMinList_map {γ : Type} (d : α) (f : γ → α) {l : List γ} (hl : l ≠ []) :
    ∃ x ∈ l, pyMinList d (l.map f) = f x ∧ ∀ y ∈ l, f x ≤ f y := by
  obtain ⟨hm, hle⟩ := pyMinList_spec d (l := l.map f) (mt List.map_eq_nil_iff.mp hl)
  obtain ⟨x, hx, hfx⟩ := List.mem_map.mp hm
  exact ⟨x, hx, hfx.symm, fun y hy => hfx ▸ hle _ (List.mem_map_of_mem hy)⟩

theorem exists_pyMaxList_map {γ : Type} (d : α) (f : γ → α) {l : List γ} (hl : l ≠ []) :
    ∃ x ∈ l, pyMaxList d (l.map f) = f x ∧ ∀ y ∈ l, f y ≤ f x :=
  exists_pyMinList_map (α := αᵒᵈ) d f hl

theorem pyMinList_mono (d : α) {l l' : List α} (h : List.Forall₂ (· ≤ ·) l l') : pyMinList d l ≤ pyMinList d l' := by
  cases h with
  | nil => exact le_rfl
  | cons hab ht =>
    rw [pyMinList_cons, pyMinList_cons]
    exact List.rel_foldl (P := (· ≤ ·)) (R := (· ≤ ·)) (@fun _ _ h _ _ h' => min_le_min h h') hab ht

theorem pyMaxList_mono (d : α) {l l' : List α} (h : List.Forall₂ (· ≤ ·) l l') : pyMaxList d l ≤ pyMaxList d l' :=
  pyMinList_mono (α := αᵒᵈ) d h.flip

theorem pyMinList_map_antitone {f : α → β} (hf : Antitone f) (d : β) (d' : α) {l : List α} (hl : l ≠ []) :
    pyMinList d (l.map f) = f (pyMaxList d' l) := by
  obtain ⟨x, xs, rfl⟩ := List.exists_cons_of_ne_nil hl
  rw [List.map_cons, pyMinList_cons, pyMaxList_cons, List.foldl_map]
  exact List.foldl_hom f fun _ _ => hf.map_max.symm

theorem pyMaxList_map_antitone {f : α → β} (hf : Antitone f) (d : β) (d' : α) {l : List α} (hl : l ≠ []) :
    pyMaxList d (l.map f) = f (pyMinList d' l) :=
  pyMinList_map_antitone (α := αᵒᵈ) (β := βᵒᵈ) hf.dual d d' hl

end Platypus
