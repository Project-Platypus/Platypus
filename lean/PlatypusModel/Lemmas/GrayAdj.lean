import PlatypusModel.Lemmas.C17Base
/-!
The Gray encodings of consecutive integers differ in exactly one bit.  MSB-first: generalise `bin2gray` to
`grayAux c` (the bit `c` precedes the list), induction on the width `k`.  For `v + 1 < 2 ^ (k+1)` either `v`
and `v+1` have the same top bit (induction hypothesis on the remaining `k` bits), or
`v = 2^k - 1`, where `0 1…1 ↦ 1 0…0` and the Gray codes of the tails coincide.
-/
namespace Platypus

theorem hamming_self (a : List Bool) : hamming a a = 0 := by
  induction a with
  | nil => rfl
  | cons x xs ih => simp [hamming, ih]

theorem int2bin_succ_lo (v k : Nat) (h : v < 2 ^ k) :
    int2bin v (k + 1) = false :: int2bin v k :=
  int2bin_eq (congrArg (· + 1) (int2bin_length v k h))
    (by rw [bin2int_cons, bin2int_int2bin, Bool.toNat_false, Nat.zero_mul, Nat.zero_add])

theorem int2bin_succ_hi (v k : Nat) (h : v < 2 ^ k) :
    int2bin (2 ^ k + v) (k + 1) = true :: int2bin v k :=
  int2bin_eq (congrArg (· + 1) (int2bin_length v k h))
    (by rw [bin2int_cons, bin2int_int2bin, int2bin_length v k h, Bool.toNat_true, Nat.one_mul])

theorem int2bin_zero (k : Nat) : int2bin 0 k = List.replicate k false := by
  simp [int2bin, bitsLsb]

theorem bin2int_replicate_true (k : Nat) : bin2int (List.replicate k true) + 1 = 2 ^ k := by
  induction k with
  | zero => rfl
  | succ k ih =>
    rw [List.replicate_succ, bin2int_cons, List.length_replicate, Bool.toNat_true, Nat.one_mul,
      Nat.add_assoc, ih, Nat.pow_succ, Nat.mul_two]

theorem int2bin_pred_pow (v k : Nat) (h : v + 1 = 2 ^ k) :
    int2bin v k = List.replicate k true :=
  int2bin_eq List.length_replicate (Nat.succ.inj ((bin2int_replicate_true k).trans h.symm))

theorem grayAux_replicate (c : Bool) (k : Nat) :
    grayAux c (List.replicate k c) = List.replicate k false := by
  induction k with
  | zero => rfl
  | succ k ih => simp [List.replicate_succ, grayAux, ih]

theorem grayAux_carry (k : Nat) :
    grayAux false (List.replicate k true) = grayAux true (List.replicate k false) := by
  cases k with
  | zero => rfl
  | succ k =>
    simp [List.replicate_succ, grayAux, grayAux_replicate]

theorem grayAux_adjacent (k : Nat) : ∀ (v : Nat), v + 1 < 2 ^ k → ∀ c : Bool,
    hamming (grayAux c (int2bin v k)) (grayAux c (int2bin (v + 1) k)) = 1 := by
  induction k with
  | zero => intro v h; simp at h
  | succ k ih =>
    intro v h c
    rw [Nat.pow_succ] at h
    rcases Nat.lt_trichotomy (v + 1) (2 ^ k) with h1 | h1 | h1
    · -- both have top bit 0
      rw [int2bin_succ_lo v k (Nat.lt_of_succ_lt h1), int2bin_succ_lo (v + 1) k h1]
      simp [grayAux, hamming, ih v h1 false]
    · -- the carry
      have hpow := int2bin_succ_hi 0 k (Nat.two_pow_pos k)
      rw [Nat.add_zero, int2bin_zero] at hpow
      rw [int2bin_succ_lo v k (h1 ▸ Nat.lt_succ_self v), int2bin_pred_pow v k h1, h1, hpow]
      simp only [grayAux, hamming]
      rw [grayAux_carry, hamming_self]
      cases c <;> rfl
    · -- both have top bit 1; `v = 2 ^ k + u`
      obtain ⟨u, rfl⟩ := Nat.exists_eq_add_of_le (Nat.le_of_lt_succ h1)
      have hu : u + 1 < 2 ^ k := by omega
      rw [Nat.add_assoc, int2bin_succ_hi u k (Nat.lt_of_succ_lt hu), int2bin_succ_hi (u + 1) k hu]
      simp [grayAux, hamming, ih u hu true]

/-- `hamming` stops at the end of the shorter list; the two have the same length by `encode_length` -/
theorem gray_adjacent (w v : Nat) (hv : v < w) :
    hamming (encode w v) (encode w (v + 1)) = 1 := by
  unfold encode
  rw [bin2gray_eq_grayAux, bin2gray_eq_grayAux]
  exact grayAux_adjacent (nbits w) v (le_lt_pow_nbits w (v + 1) hv) false

example : hamming (encode 5 3) (encode 5 4) = 1 := gray_adjacent 5 3 (by decide)
-- `decide` does not evaluate `encode`: `bitsLsb` is by well-founded recursion
example : encode 5 3 = [false, true, false] ∧ encode 5 4 = [true, true, false] := by
  have h : nbits 5 = 3 := by decide
  simp [encode, h, int2bin, bitsLsb, bin2gray]

end Platypus
