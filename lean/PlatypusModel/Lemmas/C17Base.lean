import PlatypusModel.Lemmas.Gray
namespace Platypus

theorem bin2int_int2bin (n k : Nat) : bin2int (int2bin n k) = n := by
  simp [int2bin, bin2int_append, bin2int_replicate_false, bin2int_bitsLsb_reverse]

theorem int2bin_bin2int (bits : List Bool) : int2bin (bin2int bits) bits.length = bits :=
  bin2int_inj _ _ (int2bin_length _ _ (bin2int_lt bits)) (bin2int_int2bin _ _)

theorem int2bin_eq {bits : List Bool} {n k : Nat} (hl : bits.length = k) (hv : bin2int bits = n) :
    int2bin n k = bits := by
  rw [← hl, ← hv, int2bin_bin2int]

theorem gray2bin_bin2gray (bits : List Bool) (h : bits ≠ []) :
    gray2bin (bin2gray bits) = some bits := by
  cases bits with
  | nil => exact absurd rfl h
  | cons b bs => simp [bin2gray_cons, gray2bin, gray2binAux_grayAux]

theorem bin2gray_gray2bin (g : List Bool) (h : g ≠ []) :
    (gray2bin g).map bin2gray = some g := by
  cases g with
  | nil => exact absurd rfl h
  | cons b bs => simp [gray2bin, bin2gray_cons, grayAux_gray2binAux]

/-- the empty bit string is the error branch of `gray2bin` (Python: IndexError) -/
theorem gray2bin_nil : gray2bin [] = none := rfl

theorem le_lt_pow_nbits (w v : Nat) (hv : v ≤ w) : v < 2 ^ nbits w :=
  Nat.lt_of_le_of_lt hv Nat.lt_log2_self

theorem encode_length (w v : Nat) (hv : v ≤ w) : (encode w v).length = nbits w := by
  unfold encode
  rw [bin2gray_length, int2bin_length _ _ (le_lt_pow_nbits w v hv)]

theorem decode_encode (w v : Nat) (hv : v ≤ w) : decode w (encode w v) = some v := by
  have hl := int2bin_length v (nbits w) (le_lt_pow_nbits w v hv)
  unfold decode encode
  rw [gray2bin_bin2gray _ (List.ne_nil_of_length_eq_add_one hl)]
  simp only [Option.map_some, bin2int_int2bin, if_neg (Nat.not_lt.mpr hv)]

/-- `hw`: at `w = 0` the statement fails (`nbits 0 = 1` and `decode 0 [true] = some 1`); Python's
`Integer(min, min)` raises in `__init__` (`nbits? 0 = none`). -/
theorem decode_in_range (w : Nat) (hw : 1 ≤ w) (bits : List Bool) (hl : bits.length = nbits w) :
    ∃ v, decode w bits = some v ∧ v ≤ w := by
  cases bits with
  | nil => nomatch hl
  | cons b bs =>
    have hlen : (b :: gray2binAux b bs).length = Nat.log2 w + 1 :=
      (congrArg (· + 1) (gray2binAux_length b bs)).trans hl
    have hlt := bin2int_lt (b :: gray2binAux b bs)
    rw [hlen, Nat.pow_succ, Nat.mul_two] at hlt
    -- the binary value is below `2 ^ nbits w = 2 * 2 ^ log2 w ≤ 2 * w`: subtracting `w` once is enough
    have hlog : 2 ^ Nat.log2 w ≤ w := Nat.log2_self_le (Nat.ne_zero_of_lt hw)
    have hV := Nat.lt_of_lt_of_le hlt (Nat.add_le_add hlog hlog)
    refine ⟨_, rfl, ?_⟩
    show (if bin2int (b :: gray2binAux b bs) > w then _ else _) ≤ w
    split
    next => exact Nat.sub_le_of_le_add (Nat.le_of_lt hV)
    next h => exact Nat.le_of_not_lt h

theorem decode_surjective (w v : Nat) (hv : v ≤ w) :
    ∃ bits, bits.length = nbits w ∧ decode w bits = some v :=
  ⟨encode w v, encode_length w v hv, decode_encode w v hv⟩

-- a non-power-of-two width: wrap-around
example : decode 5 (encode 5 5) = some 5 := decode_encode 5 5 (by decide)
example : nbits 5 = 3 ∧ decode 5 [true, false, false] = some 2 ∧
    decode 5 [true, false, true] = some 1 := by decide

end Platypus
