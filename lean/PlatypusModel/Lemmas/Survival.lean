import PlatypusModel.Model.Survival
import PlatypusModel.Props.C04
/-! What the elitism theorems of `Props/C09` and `Props/C09SPEA2` share. -/
namespace Platypus

variable {σ : Type}

theorem filter_prefix_of_pairwise {R : σ → σ → Prop} (p : σ → Bool)
    (hsep : ∀ a b, p a = false → p b = true → ¬ R a b) (l : List σ) (hl : l.Pairwise R) :
    l.filter p <+: l := by
  induction hl with
  | nil => exact List.prefix_rfl
  | @cons a l ha _ ih =>
    cases hpa : p a with
    | true => exact List.filter_cons_of_pos hpa ▸ (List.prefix_cons_inj a).mpr ih
    | false =>
      rw [List.filter_cons_of_neg (Bool.eq_false_iff.mp hpa),
        List.filter_eq_nil_iff.mpr fun b hb hpb => hsep a b hpa hpb (ha b hb)]
      exact List.nil_prefix

theorem truncate_head_le (le : σ → σ → Bool)
    (htotal : ∀ a b, le a b = true ∨ le b a = true)
    (htrans : ∀ a b c, le a b = true → le b c = true → le a c = true)
    (l : List σ) (N : Nat) (hN : 0 < N) (x : σ) (hx : x ∈ l) :
    ∃ best, (truncateBy le l N).head? = some best ∧ le best x = true := by
  have hs := pairwise_mergeSort le htotal htrans l
  have hxs : x ∈ l.mergeSort le := List.mem_mergeSort.mpr hx
  rw [truncateBy, List.head?_take, if_neg (Nat.ne_of_gt hN)]
  generalize l.mergeSort le = s at hs hxs
  cases hxs with
  | head t => exact ⟨x, rfl, (htotal x x).elim id id⟩
  | tail b hxt => exact ⟨b, rfl, (List.pairwise_cons.mp hs).1 x hxt⟩

theorem mem_gde3 {cmp : σ → σ → Int} {os ps : List σ} {x : σ} :
    x ∈ gde3Pairwise cmp os ps ↔
      ∃ q ∈ os.zip ps, (cmp q.1 q.2 ≤ 0 ∧ x = q.1) ∨ (cmp q.1 q.2 ≥ 0 ∧ x = q.2) := by
  induction os generalizing ps with
  | nil => simp only [gde3Pairwise, List.zip_nil_left, List.not_mem_nil, false_and, exists_false]
  | cons o os ih =>
    cases ps with
    | nil => simp only [gde3Pairwise, List.zip_nil_right, List.not_mem_nil, false_and, exists_false]
    | cons p ps =>
      rw [List.zip_cons_cons, List.exists_mem_cons_iff, ← ih]
      simp only [gde3Pairwise, List.mem_append, List.mem_ite_nil_right, List.mem_singleton, or_assoc]

theorem spea2Reduce_spec (pick : List σ → Nat)
    (hpick : ∀ l : List σ, l ≠ [] → pick l < l.length) (size fuel : Nat) (l : List σ)
    (hl : l.length ≤ size + fuel) :
    (spea2Reduce pick fuel l size).Sublist l ∧
      (spea2Reduce pick fuel l size).length = min size l.length := by
  fun_induction spea2Reduce pick fuel l size with
  | case1 l size => exact ⟨.refl _, (Nat.min_eq_right hl).symm⟩
  | case2 fuel l size hgt ih =>
    have hlen := List.length_eraseIdx_of_lt
      (hpick l (List.ne_nil_of_length_pos (Nat.zero_lt_of_lt hgt)))
    rw [hlen] at ih
    obtain ⟨ihsub, ihlen⟩ := ih (Nat.sub_le_of_le_add hl)
    -- `size < l.length`: with one member fewer the minimum is still `size`
    exact ⟨ihsub.trans (List.eraseIdx_sublist _ _), by
      rw [ihlen, Nat.min_eq_left (Nat.le_sub_one_of_lt hgt), Nat.min_eq_left (Nat.le_of_lt hgt)]⟩
  | case3 fuel l size hgt => exact ⟨.refl _, (Nat.min_eq_right (Nat.le_of_not_lt hgt)).symm⟩

/-- What both models of SPEA2's `_truncate` return, given the good members `G`: `G` with something
appended while that stays within `size`, or else exactly `size` members picked from `G`.  The driver runs
`spea2TruncateF`; `spea2Truncate` leaves the "most crowded" choice open. -/
structure FillOrReduce (G T : List σ) (size : Nat) : Prop where
  fill : G.length < size → ∃ E, T = G ++ E ∧ E.length ≤ size - G.length
  reduce : size ≤ G.length → T.Sublist G ∧ T.length = size

namespace FillOrReduce
variable {G T : List σ} {size : Nat} (h : FillOrReduce G T size)
include h

theorem keeps (hfit : G.length ≤ size) : ∀ x ∈ G, x ∈ T := by
  intro x hx
  rcases Nat.lt_or_eq_of_le hfit with hlt | heq
  · obtain ⟨E, rfl, _⟩ := h.fill hlt
    exact List.mem_append_left _ hx
  · -- `size` members picked from `size` members: all of them
    obtain ⟨hsub, hlen⟩ := h.reduce (Nat.le_of_eq heq.symm)
    rwa [hsub.eq_of_length (hlen.trans heq.symm)]

theorem only (hover : size ≤ G.length) : ∀ x ∈ T, x ∈ G := (h.reduce hover).1.subset

theorem length_le : T.length ≤ size := by
  rcases Nat.lt_or_ge G.length size with hlt | hge
  · obtain ⟨E, rfl, hE⟩ := h.fill hlt
    rw [List.length_append, ← Nat.add_sub_cancel' (Nat.le_of_lt hlt)]
    exact Nat.add_le_add_left hE _
  · exact Nat.le_of_eq (h.reduce hge).2
end FillOrReduce

theorem spea2Truncate_shape (good : σ → Bool) (le : σ → σ → Bool) (pick : List σ → Nat)
    (hpick : ∀ l : List σ, l ≠ [] → pick l < l.length) (sols : List σ) (size : Nat) :
    FillOrReduce (sols.filter good) (spea2Truncate good le pick sols size) size where
  fill hlt := ⟨_, by rw [spea2Truncate, if_pos hlt], by
    rw [List.length_take]; exact Nat.min_le_left _ _⟩
  reduce hge := by
    obtain ⟨hsub, hlen⟩ := spea2Reduce_spec pick hpick size _ (sols.filter good)
      (Nat.le_add_left _ _)
    rw [spea2Truncate, if_neg (Nat.not_lt.mpr hge)]
    exact ⟨hsub, hlen.trans (Nat.min_eq_left hge)⟩

end Platypus
