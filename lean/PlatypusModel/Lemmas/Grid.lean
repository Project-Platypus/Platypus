import PlatypusModel.Model.Grid
import Mathlib.Data.List.Induction
import Mathlib.Data.List.Nodup
import Batteries.Data.Nat.Lemmas
/-! List lemmas about the operations of the adaptive grid archive (`Model/Grid.lean`), for C14. -/
namespace Platypus

variable {σ β : Type}

theorem densUpd_length (d : List Nat) (i : Option Nat) (f : Nat → Nat) :
    (densUpd d i f).length = d.length := by
  unfold densUpd
  split
  · exact List.length_modify ..
  · split
    · rfl
    · exact List.length_modify ..

theorem getD_densUpd_some (d : List Nat) (i c : Nat) (f : Nat → Nat) (hc : c < d.length) :
    (densUpd d (some i) f).getD c 0 = if i = c then f (d.getD c 0) else d.getD c 0 := by
  rw [densUpd, List.getD_eq_getElem?_getD, List.getD_eq_getElem?_getD, List.getElem?_modify,
    List.getElem?_eq_getElem hc]
  split <;> rfl

theorem eraseId_eq_eraseP (getId : σ → Nat) (p : σ) (l : List σ) :
    eraseId getId p l = l.eraseP (fun m => getId m == getId p) := by
  induction l with
  | nil => rfl
  | cons a l ih =>
    rw [eraseId, List.eraseP_cons, ih]
    cases getId a == getId p <;> rfl

theorem eraseId_sublist (getId : σ → Nat) (p : σ) (l : List σ) : (eraseId getId p l).Sublist l :=
  eraseId_eq_eraseP getId p l ▸ List.eraseP_sublist

theorem perm_cons_eraseId (getId : σ → Nat) (p : σ) (l : List σ) (hp : p ∈ l)
    (hn : (l.map getId).Nodup) : l.Perm (p :: eraseId getId p l) := by
  obtain ⟨q, l₁, l₂, -, hq, e₁, e₂⟩ :=
    List.exists_of_eraseP (p := fun m => getId m == getId p) hp (beq_self_eq_true _)
  have hqp : q = p := List.inj_on_of_nodup_map hn (by simp [e₁]) hp (beq_iff_eq.mp hq)
  rw [eraseId_eq_eraseP, e₂, e₁, hqp]
  exact List.perm_middle

/-- the fold of `pick_from_densest` -/
theorem foldl_pick_eq_maxOn? (f : σ → Nat) (l : List σ) :
    (l.foldl (fun (acc : Option σ × Int) m => if (f m : Int) > acc.2 then (some m, (f m : Int)) else acc)
      (none, -1)).1 = l.maxOn? f := by
  cases l with
  | nil => rfl
  | cons x xs =>
    -- the first member beats the initial score -1; from then on the accumulator is a member with its score
    rw [List.foldl_cons, if_pos (Int.lt_of_lt_of_le (by decide : (-1 : Int) < 0) (Int.natCast_nonneg _))]
    refine congrArg Prod.fst (List.foldl_hom (g₁ := maxOn f) (fun a => (some a, (f a : Int))) fun a m => ?_)
    by_cases h : f m ≤ f a
    · rw [maxOn_eq_left h]
      exact if_neg (Int.not_lt.mpr (Int.ofNat_le.mpr h))
    · rw [maxOn_eq_right h]
      exact if_pos (Int.ofNat_lt.mpr (Nat.lt_of_not_le h))

variable (cfg : GridCfg σ β)

theorem findDensest_eq (g : GridArchive σ β) :
    findDensest cfg g = (pickFromDensest cfg g).bind (cfg.cell g.bounds) :=
  congrArg Prod.fst (List.foldl_hom (fun acc => (acc.1.bind (cfg.cell g.bounds), acc.2)) (init := (none, -1))
    (fun acc m => by
      dsimp only
      split <;> rfl))

theorem pickFromDensest_eq_maxOn? (g : GridArchive σ β) :
    pickFromDensest cfg g = g.contents.maxOn? fun m => densAt g.density (cfg.cell g.bounds m) :=
  foldl_pick_eq_maxOn? _ _

theorem pickFromDensest_spec (g : GridArchive σ β) (hne : g.contents ≠ []) :
    ∃ p, p ∈ g.contents ∧
      (∀ m ∈ g.contents, densAt g.density (cfg.cell g.bounds m) ≤ densAt g.density (cfg.cell g.bounds p)) ∧
      pickFromDensest cfg g = some p :=
  ⟨_, List.maxOn_mem,
    fun _ hm => List.le_apply_maxOn_of_mem (f := fun m => densAt g.density (cfg.cell g.bounds m)) hm,
    (pickFromDensest_eq_maxOn? cfg g).trans (List.maxOn?_eq_some_maxOn hne)⟩

/-- `find_index` moves `t = d` (reached at the upper bound) down into the last cell -/
theorem findIndex_digit_lt {t d : Nat} (hd : 1 ≤ d) (ht : t ≤ d) : (if t = d then t - 1 else t) < d := by
  split
  · next h => exact Nat.lt_of_lt_of_le (Nat.sub_lt (h ▸ hd) Nat.one_pos) ht
  · next h => exact Nat.lt_of_le_of_ne ht h

section
variable {α : Type} [LT α] [DecidableLT α] [Sub α] [Div α] [Mul α] [OfNat α 0]
variable {ofNat : Nat → α} {trunc : α → Nat} {divisions : Nat}

theorem findIndexLoop_lt (hdiv : 1 ≤ divisions)
    (htr : ∀ lo hi v, ¬ (v < lo ∨ hi < v) →
      trunc (ofNat divisions * (if lo < hi then (v - lo) / (hi - lo) else 0)) ≤ divisions)
    {los his vs : List α} {pw acc c : Nat} (hacc : acc < pw)
    (h : findIndexLoop ofNat trunc divisions los his vs pw acc = some c) :
    c < pw * divisions ^ (min (min los.length his.length) vs.length) := by
  fun_induction findIndexLoop ofNat trunc divisions los his vs pw acc with
  | case1 => cases h -- out of bounds: `none`
  | case2 lo los hi his v vs pw acc hin value t t' ih =>
    -- one more mixed-radix digit `t'`, weight `pw`
    have hc := ih (Nat.mul_comm pw _ ▸
      Nat.add_mul_lt_mul_of_lt_of_lt hacc (findIndex_digit_lt hdiv (htr lo hi v hin))) h
    simp only [List.length_cons, Nat.add_min_add_right, Nat.pow_succ']
    rwa [← Nat.mul_assoc]
  | case3 =>
    -- a list has run out: `some acc`
    cases h
    exact Nat.lt_of_lt_of_le hacc (Nat.le_mul_of_pos_right _ (Nat.pow_pos hdiv))

theorem findIndexLoop_isSome {los his vs : List α} {pw acc : Nat}
    (hb : ∀ i (h1 : i < vs.length) (h2 : i < los.length) (h3 : i < his.length),
      ¬ (vs[i] < los[i] ∨ his[i] < vs[i])) :
    ∃ c, findIndexLoop ofNat trunc divisions los his vs pw acc = some c := by
  fun_induction findIndexLoop ofNat trunc divisions los his vs pw acc with
  | case1 lo los hi his v vs pw acc hout =>
    -- out of bounds, against `hb 0`
    exact absurd hout (hb 0 (Nat.zero_lt_succ _) (Nat.zero_lt_succ _) (Nat.zero_lt_succ _))
  | case2 lo los hi his v vs pw acc hin value t t' ih =>
    exact ih fun i h1 h2 h3 => hb (i + 1) (Nat.succ_lt_succ h1) (Nat.succ_lt_succ h2) (Nat.succ_lt_succ h3)
  | case3 => exact ⟨_, rfl⟩ -- a list has run out
end

end Platypus
