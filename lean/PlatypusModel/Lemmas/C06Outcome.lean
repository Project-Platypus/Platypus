import PlatypusModel.Lemmas.C06Defs
/-!
`Outcome`: what the per-variable workers of the operators (`sbxVars`, `pmxVars` …) promise about the variables they return
and about the "something was written" flag they thread.
`Mixed`: what the SSX position loop does to a subset.
-/
namespace Platypus

section
variable {α : Type} [LE α]

/-- `w`: the flag on entry, `w'`: the flag returned -/
def Outcome (types : List (TypeD α)) (vars : List (Var α)) (w : Bool) (vars' : List (Var α)) (w' : Bool) : Prop :=
  ValidVars types vars' ∧ (w' = false → vars' = vars ∧ w = false)

namespace Outcome
variable {types ts : List (TypeD α)} {t : TypeD α} {vars vs rest : List (Var α)} {a a' : Var α} {w w₀ w' : Bool}

theorem refl (h : ValidVars types vars) : Outcome types vars w vars w :=
  ⟨h, fun hw => ⟨rfl, hw⟩⟩

theorem pass (ha : ValidVar t a) (h : Outcome ts vs w rest w') : Outcome (t :: ts) (a :: vs) w (a :: rest) w' :=
  ⟨.cons ha h.1, fun hw => (h.2 hw).imp_left (congrArg _)⟩

/-- `w₀` and `w'` are free: after rewriting the head the models hand `true` on and drop the flag that comes back -/
theorem write (ha : ValidVar t a') (h : Outcome ts vs w₀ rest w') : Outcome (t :: ts) (a :: vs) w (a' :: rest) true :=
  ⟨.cons ha h.1, nofun⟩

/-- the head variable goes through a loop of its own (`flipBits`, `huxBits`) that threads the flag -/
theorem thread {w₁ : Bool} (ha : ValidVar t a') (h₁ : w₁ = false → a' = a ∧ w = false) (h : Outcome ts vs w₁ rest w') :
    Outcome (t :: ts) (a :: vs) w (a' :: rest) w' := by
  refine ⟨.cons ha h.1, fun hw => ?_⟩
  obtain ⟨hrest, hw₁⟩ := h.2 hw
  obtain ⟨ha', hw₀⟩ := h₁ hw₁
  exact ⟨by rw [ha', hrest], hw₀⟩

theorem child {parent : OSol α} (h : Outcome types parent.vars false vars w) :
    let c : OSol α := { vars := vars, evaluated := if w then false else parent.evaluated }
    ValidSol types c ∧ (c.evaluated = false ∨ (c.vars = parent.vars ∧ c.evaluated = parent.evaluated)) := by
  refine ⟨h.1, ?_⟩
  cases w
  · exact .inr ⟨(h.2 rfl).1, rfl⟩
  · exact .inl rfl

end Outcome
end

/-- `r` arises from `as` by exchanging some members for members of `bs` outside `A`; `as` are the remaining positions of a
parent whose element list is `A` -/
def Mixed (A as bs r : List Nat) : Prop :=
  r.length = as.length ∧ r.Nodup ∧ ∀ e ∈ r, e ∈ as ∨ (e ∈ bs ∧ e ∉ A)

namespace Mixed
variable {A as bs r : List Nat} {x y : Nat}

theorem refl (h : as.Nodup) : Mixed A as bs as :=
  ⟨rfl, h, fun _ => .inl⟩

theorem mem_cons (h : Mixed A as bs r) : ∀ e ∈ r, e ∈ x :: as ∨ (e ∈ y :: bs ∧ e ∉ A) :=
  fun e he => (h.2.2 e he).imp (List.mem_cons_of_mem _) (And.imp_left (List.mem_cons_of_mem _))

/-- keeping `x`: it is in `A`, so it was not imported from `bs`, and it is not among the other kept ones -/
theorem keep (hx : x ∈ A) (hxas : x ∉ as) (h : Mixed A as bs r) : Mixed A (x :: as) (y :: bs) (x :: r) :=
  ⟨congrArg (· + 1) h.1, List.nodup_cons.2 ⟨fun hm => (h.2.2 x hm).elim hxas fun h' => h'.2 hx, h.2.1⟩,
    List.forall_mem_cons.2 ⟨.inl List.mem_cons_self, h.mem_cons⟩⟩

/-- importing `y ∉ A`: what was kept from `as` is in `A`, and `y` is not among the other imported ones -/
theorem take (hy : y ∉ A) (hybs : y ∉ bs) (hA : ∀ e ∈ as, e ∈ A) (h : Mixed A as bs r) :
    Mixed A (x :: as) (y :: bs) (y :: r) :=
  ⟨congrArg (· + 1) h.1,
    List.nodup_cons.2 ⟨fun hm => (h.2.2 y hm).elim (fun h' => hy (hA y h')) fun h' => hybs h'.1, h.2.1⟩,
    List.forall_mem_cons.2 ⟨.inr ⟨List.mem_cons_self, hy⟩, h.mem_cons⟩⟩

end Mixed

end Platypus
