import PlatypusModel.Model.Indicators
import Mathlib.Algebra.Order.Ring.Defs
import Mathlib.Algebra.Field.Defs
/-!
# The hypervolume algorithm on an array prefix (C15)

`swapA`, `reduceSet`, `filterNondominated` specified on the list of points in an array prefix (`pl`), up to
permutation of that prefix (`PrefPerm`).
-/
namespace Platypus

section arrays
variable {β : Type}

def PrefPerm (n : Nat) (a b : Array β) : Prop :=
  (b.toList.take n).Perm (a.toList.take n) ∧ b.toList.drop n = a.toList.drop n

theorem PrefPerm.refl (n : Nat) (a : Array β) : PrefPerm n a a := ⟨List.Perm.refl _, rfl⟩

theorem PrefPerm.trans {n : Nat} {a b c : Array β} (h1 : PrefPerm n a b) (h2 : PrefPerm n b c) : PrefPerm n a c :=
  ⟨h2.1.trans h1.1, h2.2.trans h1.2⟩

theorem PrefPerm.mono {n m : Nat} {a b : Array β} (h : PrefPerm n a b) (hnm : n ≤ m) : PrefPerm m a b := by
  obtain ⟨e, rfl⟩ := Nat.exists_eq_add_of_le hnm
  refine ⟨?_, ?_⟩
  · rw [List.take_add, List.take_add, h.2]
    exact h.1.append_right _
  · rw [← List.drop_drop, ← List.drop_drop, h.2]

theorem PrefPerm.size_eq {n : Nat} {a b : Array β} (h : PrefPerm n a b) : b.size = a.size := by
  rw [← Array.length_toList, ← List.take_append_drop n b.toList, List.length_append, h.1.length_eq, h.2,
    ← List.length_append, List.take_append_drop, Array.length_toList]

theorem swapA_eq_swap (a : Array β) (i j : Nat) (hi : i < a.size) (hj : j < a.size) :
    swapA a i j = a.swap i j hi hj := by
  unfold swapA; rw [dif_pos ⟨hi, hj⟩]; rfl

theorem swapA_size (a : Array β) (i j : Nat) : (swapA a i j).size = a.size := by
  unfold swapA; split <;> simp

theorem swapA_getD_left (a : Array β) (i j : Nat) (d : β) (hi : i < a.size) (hj : j < a.size) :
    (swapA a i j).getD i d = a.getD j d := by
  simp [swapA_eq_swap a i j hi hj, hi, hj]

theorem swapA_getD_right (a : Array β) (i j : Nat) (d : β) (hi : i < a.size) (hj : j < a.size) :
    (swapA a i j).getD j d = a.getD i d := by
  simp [swapA_eq_swap a i j hi hj, hi, hj]

theorem swapA_getD_of_ne (a : Array β) (i j b : Nat) (d : β) (hbi : b ≠ i) (hbj : b ≠ j) :
    (swapA a i j).getD b d = a.getD b d := by
  by_cases h : i < a.size ∧ j < a.size
  · rw [swapA, dif_pos h, Array.getD_eq_getD_getElem?, Array.getD_eq_getD_getElem?,
      Array.getElem?_set_ne _ (Ne.symm hbj), Array.getElem?_set_ne _ (Ne.symm hbi)]
  · rw [swapA, dif_neg h]

theorem swapA_getD (a : Array β) (i j b : Nat) (d : β) (hi : i < a.size) (hj : j < a.size) :
    (swapA a i j).getD b d = if b = i then a.getD j d else if b = j then a.getD i d else a.getD b d := by
  by_cases h1 : b = i
  · rw [if_pos h1, h1]; exact swapA_getD_left a i j d hi hj
  · by_cases h2 : b = j
    · rw [if_neg h1, if_pos h2, h2]; exact swapA_getD_right a i j d hi hj
    · rw [if_neg h1, if_neg h2]; exact swapA_getD_of_ne a i j b d h1 h2

theorem swapA_prefPerm (a : Array β) (i j n : Nat) (hi : i < n) (hj : j < n) (hn : n ≤ a.size) :
    PrefPerm n a (swapA a i j) := by
  have hlen : (a.toList.take n).length = n := by rw [List.length_take, Array.length_toList, Nat.min_eq_left hn]
  have hp := List.set_set_perm (hlen.symm ▸ hi) (hlen.symm ▸ hj)
  rw [List.getElem_take, List.getElem_take] at hp
  rw [swapA_eq_swap a i j (hi.trans_le hn) (hj.trans_le hn), PrefPerm, Array.toList_swap, List.take_set, List.take_set,
    List.drop_set_of_lt hj, List.drop_set_of_lt hi]
  exact ⟨hp, rfl⟩

end arrays

section prefixes
variable {α : Type}

/-- the points in `a[0..n)`, read with `getD` as the model reads them: no bound on `n` is needed -/
def pl (a : Array (Array α)) (n : Nat) : List (List α) := (List.range n).map (fun i => (a.getD i #[]).toList)

theorem pl_length (a : Array (Array α)) (n : Nat) : (pl a n).length = n := by
  rw [pl, List.length_map, List.length_range]

theorem pl_succ (a : Array (Array α)) (n : Nat) : pl a (n + 1) = pl a n ++ [(a.getD n #[]).toList] := by
  rw [pl, List.range_succ, List.map_append]; rfl

theorem mem_pl_iff (a : Array (Array α)) (n : Nat) (x : List α) :
    x ∈ pl a n ↔ ∃ i, i < n ∧ (a.getD i #[]).toList = x := by
  simp only [pl, List.mem_map, List.mem_range]

theorem mem_pl (a : Array (Array α)) (i n : Nat) (hi : i < n) : (a.getD i #[]).toList ∈ pl a n :=
  (mem_pl_iff a n _).2 ⟨i, hi, rfl⟩

theorem pl_subset (a : Array (Array α)) (m n : Nat) (h : m ≤ n) : ∀ x ∈ pl a m, x ∈ pl a n :=
  fun _ hx => List.map_subset _ (List.range_subset.2 h) hx

theorem pl_eq_take (a : Array (Array α)) (n : Nat) (hn : n ≤ a.size) :
    pl a n = (a.toList.take n).map Array.toList := by
  induction n with
  | zero => rfl
  | succ n ih =>
    rw [pl_succ, ih (Nat.le_of_succ_le hn), List.take_succ_eq_append_getElem (by rw [Array.length_toList]; exact hn),
      List.map_append]
    simp [Nat.lt_of_succ_le hn]

theorem PrefPerm.pl_perm {n : Nat} {a b : Array (Array α)} (h : PrefPerm n a b) (hn : n ≤ a.size) :
    (pl b n).Perm (pl a n) := by
  rw [pl_eq_take a n hn, pl_eq_take b n (h.size_eq ▸ hn)]
  exact h.1.map _

theorem PrefPerm.subset {n m : Nat} {a b : Array (Array α)} (h : PrefPerm n a b) (hn : n ≤ a.size) (hm : m ≤ n) :
    ∀ x ∈ pl b m, x ∈ pl a n :=
  fun x hx => (h.pl_perm hn).mem_iff.1 (pl_subset b m n hm x hx)

theorem array_getD_toList (x : Array α) (k : Nat) (d : α) : x.toList.getD k d = x.getD k d := by
  rw [List.getD_eq_getElem?_getD, Array.getElem?_toList, Array.getD_eq_getD_getElem?]

/-! `n -= 1; swap(x, n)`: the removal step of `reduce_set` and `filter_nondominated`. -/

theorem le_size_swapA_last (a : Array (Array α)) (x n : Nat) (hn : n ≤ a.size) :
    n - 1 ≤ (swapA a x (n - 1)).size :=
  (Nat.sub_le n 1).trans (hn.trans (swapA_size a x (n - 1)).ge)

theorem PrefPerm.swapA_last {a b : Array (Array α)} {x n : Nat} (hx : x < n) (hn : n ≤ a.size)
    (h : PrefPerm (n - 1) (swapA a x (n - 1)) b) : PrefPerm n a b :=
  (swapA_prefPerm a x (n - 1) n hx (Nat.sub_one_lt_of_lt hx) hn).trans (h.mono (Nat.sub_le n 1))

theorem mem_pl_swapA_last (a : Array (Array α)) (x n : Nat) (hx : x < n) (hn : n ≤ a.size) (y : List α) :
    y ∈ pl a n ↔ y ∈ pl (swapA a x (n - 1)) (n - 1) ∨ y = (a.getD x #[]).toList := by
  obtain ⟨m, rfl⟩ := Nat.exists_eq_add_one_of_ne_zero (Nat.ne_of_gt (Nat.zero_lt_of_lt hx))
  -- after the swap the last position `m` of the prefix holds the old `a[x]`
  rw [← ((swapA_prefPerm a x m (m + 1) hx (Nat.lt_succ_self m) hn).pl_perm hn).mem_iff, pl_succ, List.mem_append,
    List.mem_singleton, Nat.add_sub_cancel,
    swapA_getD_right a x m _ (lt_of_lt_of_le hx hn) (lt_of_lt_of_le (Nat.lt_succ_self m) hn)]

end prefixes

section reduceSet
variable {α : Type} [LE α] [DecidableLE α] [OfNat α 0]

/-- No `iff` in the fourth conjunct: the loop does not examine the element it swaps in, so a point at or below
`t` may stay.  The last conjunct is progress. -/
theorem reduceSet_spec (obj : Nat) (t : α) (fuel : Nat) (arr : Array (Array α)) (i n : Nat) (hn : n ≤ arr.size) :
    ∃ arr' n', reduceSet obj t fuel arr i n = (arr', n') ∧ PrefPerm n arr arr' ∧ n' ≤ n ∧
      (∀ x ∈ pl arr n, x ∈ pl arr' n' ∨ x.getD obj 0 ≤ t) ∧
      ∀ b, i ≤ b → b < n → b < i + fuel → (arr.getD b #[]).getD obj 0 ≤ t → n' < n := by
  fun_induction reduceSet obj t fuel arr i n with
  | case1 arr i n =>
    -- no fuel
    exact ⟨arr, n, rfl, PrefPerm.refl _ _, le_refl _, fun x hx => Or.inl hx,
      fun b hib _ hbf _ => absurd (lt_of_le_of_lt hib hbf) (lt_irrefl _)⟩
  | case2 fuel arr i n hin hle ih =>
    -- `arr[i] ≤ t`: remove `i`
    obtain ⟨arr', n', he, hperm, hn', hkept, _⟩ := ih (le_size_swapA_last arr i n hn)
    refine ⟨arr', n', he, hperm.swapA_last hin hn, hn'.trans (Nat.sub_le n 1), fun x hx => ?_,
      fun _ _ _ _ _ => lt_of_le_of_lt hn' (Nat.sub_one_lt_of_lt hin)⟩
    rcases (mem_pl_swapA_last arr i n hin hn x).1 hx with h | rfl
    · exact hkept x h
    · exact Or.inr (by rw [array_getD_toList]; exact hle)
  | case3 fuel arr i n hin hle ih =>
    -- `arr[i] > t`: `i` advances
    obtain ⟨arr', n', he, hperm, hn', hkept, hprog⟩ := ih hn
    refine ⟨arr', n', he, hperm, hn', hkept, fun b hib hbn hbf hb => ?_⟩
    have : i ≠ b := fun h => hle (h ▸ hb)
    exact hprog b (Nat.lt_of_le_of_ne hib this) hbn (Nat.lt_of_lt_of_eq hbf (Nat.add_right_comm i fuel 1)) hb
  | case4 fuel arr i n hin =>
    -- `i` has reached `n`
    exact ⟨arr, n, rfl, PrefPerm.refl _ _, le_refl _, fun x hx => Or.inl hx,
      fun b hib hbn _ _ => absurd (lt_of_le_of_lt hib hbn) hin⟩

end reduceSet

section hvDominates
variable {α : Type} [LT α] [DecidableLT α] [OfNat α 0]

theorem hvDominates_iff (a b : Array α) (k : Nat) :
    hvDominates a b k = true ↔ 0 < k ∧ ∀ i, i < k → b.getD i 0 < a.getD i 0 := by
  simp only [hvDominates, Bool.and_eq_true, List.all_eq_true, List.mem_range, decide_eq_true_eq, gt_iff_lt]

end hvDominates

section domination
variable {α : Type} [LinearOrder α] [Zero α]

theorem hvDominates_irrefl (a : Array α) (k : Nat) : hvDominates a a k = false :=
  Bool.eq_false_iff.2 fun h => lt_irrefl _ (((hvDominates_iff a a k).1 h).2 0 ((hvDominates_iff a a k).1 h).1)

theorem hvDominates_le (a b : Array α) (k : Nat) (h : hvDominates a b k = true) :
    ∀ i, i < k → b.toList.getD i 0 ≤ a.toList.getD i 0 := fun i hi => by
  rw [array_getD_toList, array_getD_toList]
  exact le_of_lt (((hvDominates_iff a b k).1 h).2 i hi)

theorem hvDominates_one_false (a b : Array α) (h : hvDominates a b 1 = false) : a.getD 0 0 ≤ b.getD 0 0 :=
  not_lt.1 fun hlt => Bool.eq_false_iff.1 h
    ((hvDominates_iff a b 1).2 ⟨Nat.zero_lt_one, fun _ hi => Nat.lt_one_iff.1 hi ▸ hlt⟩)

def DomBy (d : Nat) (P Q : List (List α)) : Prop :=
  ∀ p ∈ P, ∃ q ∈ Q, ∀ i, i < d → p.getD i 0 ≤ q.getD i 0

theorem DomBy.nil {d : Nat} {Q : List (List α)} : DomBy d [] Q := fun _ h => absurd h List.not_mem_nil

theorem DomBy.of_subset {d : Nat} {P Q : List (List α)} (h : ∀ x ∈ P, x ∈ Q) : DomBy d P Q :=
  fun p hp => ⟨p, h p hp, fun _ _ => le_refl _⟩

theorem DomBy.mono {d e : Nat} {P Q : List (List α)} (h : DomBy d P Q) (he : e ≤ d) : DomBy e P Q :=
  fun p hp => (h p hp).imp fun _ hq => ⟨hq.1, fun i hi => hq.2 i (lt_of_lt_of_le hi he)⟩

theorem DomBy.trans {d : Nat} {P Q S : List (List α)} (h1 : DomBy d P Q) (h2 : DomBy d Q S) : DomBy d P S := by
  intro p hp
  obtain ⟨q, hq, hpq⟩ := h1 p hp
  obtain ⟨s, hs, hqs⟩ := h2 q hq
  exact ⟨s, hs, fun i hi => le_trans (hpq i hi) (hqs i hi)⟩

theorem domBy_swapA_last (a : Array (Array α)) (k x y n : Nat) (hx : x < n) (hy : y < n) (hn : n ≤ a.size)
    (hdom : hvDominates (a.getD y #[]) (a.getD x #[]) k = true) :
    DomBy k (pl a n) (pl (swapA a x (n - 1)) (n - 1)) := by
  have hy' : (a.getD y #[]).toList ∈ pl (swapA a x (n - 1)) (n - 1) :=
    ((mem_pl_swapA_last a x n hx hn _).1 (mem_pl a y n hy)).resolve_right fun h => by
      rw [Array.toList_inj.1 h, hvDominates_irrefl] at hdom
      exact Bool.false_ne_true hdom
  intro z hz
  rcases (mem_pl_swapA_last a x n hx hn z).1 hz with h | rfl
  · exact ⟨z, h, fun _ _ => le_refl _⟩
  · exact ⟨_, hy', hvDominates_le _ _ k hdom⟩

theorem filterNondominated_spec (k fuel : Nat) (arr : Array (Array α)) (i j n : Nat) (hn : n ≤ arr.size) :
    ∃ arr' m, filterNondominated k fuel arr i j n = (arr', m) ∧ PrefPerm n arr arr' ∧ m ≤ n ∧
      DomBy k (pl arr n) (pl arr' m) := by
  fun_induction filterNondominated k fuel arr i j n with
  | case1 arr i j n =>
    -- no fuel
    exact ⟨arr, n, rfl, PrefPerm.refl _ _, le_refl _, DomBy.of_subset fun _ h => h⟩
  | case2 fuel arr i j n hin hjn hd ih =>
    -- `arr[i]` dominates `arr[j]`: remove `j`
    obtain ⟨arr', m, he, hperm, hm, hdom⟩ := ih (le_size_swapA_last arr j n hn)
    exact ⟨arr', m, he, hperm.swapA_last hjn hn, hm.trans (Nat.sub_le n 1),
      (domBy_swapA_last arr k j i n hjn hin hn hd).trans hdom⟩
  | case3 fuel arr i j n hin hjn _ hd ih =>
    -- `arr[j]` dominates `arr[i]`: remove `i`
    obtain ⟨arr', m, he, hperm, hm, hdom⟩ := ih (le_size_swapA_last arr i n hn)
    exact ⟨arr', m, he, hperm.swapA_last hin hn, hm.trans (Nat.sub_le n 1),
      (domBy_swapA_last arr k i j n hin hjn hn hd).trans hdom⟩
  -- neither dominates, or `j` has reached `n`
  | case4 fuel arr i j n _ _ _ _ ih => exact ih hn
  | case5 fuel arr i j n _ _ ih => exact ih hn
  | case6 fuel arr i j n _ =>
    -- `i` has reached `n`
    exact ⟨arr, n, rfl, PrefPerm.refl _ _, le_refl _, DomBy.of_subset fun _ h => h⟩

/-- The steps `filterNondominated` has left are bounded by `(n - i) * C + (n - j)` for any `C ≥ n`: `j` runs
at most `C` steps before `n - i` falls, which pays for starting `j` afresh. -/
theorem filterNondominated_fuel_pay {a a' b b' C f : Nat} (ha : a' < a) (hb : b' < C) (hf : a * C + b < f + 1) :
    a' * C + b' < f :=
  calc a' * C + b' < a' * C + C := Nat.add_lt_add_left hb _
    _ = (a' + 1) * C := (Nat.succ_mul a' C).symm
    _ ≤ a * C := Nat.mul_le_mul_right C ha
    _ ≤ a * C + b := Nat.le_add_right _ _
    _ ≤ f := Nat.le_of_lt_succ hf

/-- Position 0 is where `calc_internal` reads the volume for two objectives.  `hinv`: no position already
compared with position 0 dominates it. -/
theorem filterNondominated_head (k C fuel : Nat) (arr : Array (Array α)) (i j n : Nat)
    (hij : i < j) (hn : n ≤ arr.size) (hC : n ≤ C) (hf : (n - i) * C + (n - j) < fuel)
    (hinv : ∀ b, b < n → (i = 0 → b < j) → hvDominates (arr.getD b #[]) (arr.getD 0 #[]) k = false) :
    ∀ b, b < (filterNondominated k fuel arr i j n).2 →
      hvDominates ((filterNondominated k fuel arr i j n).1.getD b #[])
        ((filterNondominated k fuel arr i j n).1.getD 0 #[]) k = false := by
  fun_induction filterNondominated k fuel arr i j n with
  | case1 arr i j n => exact absurd hf (Nat.not_lt_zero _)
  | case2 fuel arr i j n hin hjn hd ih =>
    -- `arr[i]` dominates `arr[j]`: position `j` now holds the old `arr[n-1]`
    have h0 : 0 < n - 1 := lt_of_lt_of_le (Nat.zero_lt_of_lt hij) (Nat.le_sub_one_of_lt hjn)
    have hn' : n - 1 < n := Nat.sub_one_lt_of_lt hin
    refine ih hij (le_size_swapA_last arr j n hn) (hn'.le.trans hC)
      (filterNondominated_fuel_pay (Nat.sub_lt_sub_right (Nat.le_sub_one_of_lt hin) hn')
        ((Nat.sub_le _ j).trans_lt (hn'.trans_le hC)) hf) fun b hb hbj => ?_
    rw [swapA_getD_of_ne arr j (n - 1) 0 _ (Nat.ne_of_lt (Nat.zero_lt_of_lt hij)) (Nat.ne_of_lt h0)]
    by_cases hbj' : b = j
    · rw [hbj', swapA_getD_left arr j (n - 1) _ (lt_of_lt_of_le hjn hn) (lt_of_lt_of_le hn' hn)]
      exact hinv (n - 1) hn' (fun hi0 => absurd (hbj' ▸ hbj hi0) (lt_irrefl _))
    · rw [swapA_getD_of_ne arr j (n - 1) b _ hbj' (Nat.ne_of_lt hb)]
      exact hinv b (hb.trans hn') hbj
  | case3 fuel arr i j n hin hjn _ hd ih =>
    -- `arr[j]` dominates `arr[i]`: `i` is removed, `j` starts afresh
    have h0 : 0 < n - 1 := lt_of_lt_of_le (Nat.zero_lt_of_lt hij) (Nat.le_sub_one_of_lt hjn)
    have hn' : n - 1 < n := Nat.sub_one_lt_of_lt hin
    refine ih (Nat.lt_succ_self i) (le_size_swapA_last arr i n hn) (hn'.le.trans hC)
      (filterNondominated_fuel_pay (Nat.sub_lt_sub_right (Nat.le_sub_one_of_lt hin) hn')
        ((Nat.sub_le _ _).trans_lt (hn'.trans_le hC)) hf) fun b hb hbj => ?_
    by_cases hi0 : i = 0
    · have hb0 : b = 0 := Nat.le_zero.1 (Nat.le_of_lt_succ (hi0 ▸ hbj hi0))
      rw [hb0]; exact hvDominates_irrefl _ _
    · rw [swapA_getD_of_ne arr i (n - 1) 0 _ (Ne.symm hi0) (Nat.ne_of_lt h0)]
      by_cases hbi : b = i
      · rw [hbi, swapA_getD_left arr i (n - 1) _ (lt_of_lt_of_le hin hn) (lt_of_lt_of_le hn' hn)]
        exact hinv (n - 1) hn' (fun h => absurd h hi0)
      · rw [swapA_getD_of_ne arr i (n - 1) b _ hbi (Nat.ne_of_lt hb)]
        exact hinv b (hb.trans hn') (fun h => absurd h hi0)
  | case4 fuel arr i j n hin hjn _ hd2 ih =>
    -- neither dominates: `j` advances
    have hstep : (n - i) * C + (n - (j + 1)) < (n - i) * C + (n - j) :=
      Nat.add_lt_add_left (Nat.sub_succ_lt_self n j hjn) _
    refine ih (Nat.lt_succ_of_lt hij) hn hC (hstep.trans_le (Nat.le_of_lt_succ hf)) fun b hb hbj => ?_
    by_cases hbj' : b = j
    · by_cases hi0 : i = 0
      · rw [hbj', ← hi0]; exact Bool.eq_false_iff.2 hd2
      · exact hinv b hb (fun h => absurd h hi0)
    · exact hinv b hb (fun h => Nat.lt_of_le_of_ne (Nat.le_of_lt_succ (hbj h)) hbj')
  | case5 fuel arr i j n hin hjn ih =>
    -- `j` has reached `n`: next `i`
    exact ih (Nat.lt_succ_self _) hn hC
      (filterNondominated_fuel_pay (Nat.sub_succ_lt_self n i hin)
        ((Nat.sub_lt (Nat.zero_lt_of_lt hin) (Nat.succ_pos _)).trans_le hC) hf)
      fun b hb _ => hinv b hb (fun _ => lt_of_lt_of_le hb (not_lt.1 hjn))
  | case6 fuel arr i j n hin =>
    exact fun b hb => hinv b hb (fun h0 => absurd (lt_of_lt_of_le hb (h0 ▸ not_lt.1 hin)) (Nat.not_lt_zero b))

end domination

-- the facts on `InUnit` take the classes of the C15 statements whole, though they do not use `IsStrictOrderedRing`
set_option linter.unusedSectionVars false
variable {α : Type} [Field α] [LinearOrder α] [IsStrictOrderedRing α]

def InUnit (d : Nat) (P : List (List α)) : Prop :=
  ∀ p ∈ P, ∀ i, i < d → 0 ≤ p.getD i 0 ∧ p.getD i 0 ≤ 1

theorem InUnit.nil {d : Nat} : InUnit d ([] : List (List α)) := fun _ h => absurd h List.not_mem_nil

theorem InUnit.mono {d e : Nat} {P : List (List α)} (h : InUnit d P) (he : e ≤ d) : InUnit e P :=
  fun p hp i hi => h p hp i (lt_of_lt_of_le hi he)

theorem InUnit.sub {d : Nat} {P Q : List (List α)} (h : InUnit d P) (hs : ∀ x ∈ Q, x ∈ P) : InUnit d Q :=
  fun p hp i hi => h p (hs p hp) i hi

theorem InUnit.filter {d : Nat} {P : List (List α)} (h : InUnit d P) (f : List α → Bool) : InUnit d (P.filter f) :=
  h.sub (fun _ hx => (List.mem_filter.1 hx).1)

end Platypus
