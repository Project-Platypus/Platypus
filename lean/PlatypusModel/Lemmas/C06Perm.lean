import PlatypusModel.Model.Operators
import Mathlib.Data.List.Nodup
import Batteries.Data.List.Perm
import Mathlib.Logic.Relation
/-! PMX (Props/C06Perm.lean): following the replacement chain ends within the fuel, and the child is a permutation. -/
namespace Platypus

def chaseF (f : Nat → Option Nat) : Nat → Nat → Option Nat
  | 0, _ => none
  | k + 1, x =>
    match f x with
    | some y => chaseF f k y
    | none => some x

def lookupF (repl : List (Nat × Nat)) (x : Nat) : Option Nat :=
  (repl.find? (fun p => p.1 == x)).map (·.2)

theorem chase_eq_chaseF (repl : List (Nat × Nat)) : chase repl = chaseF (lookupF repl) := by
  funext k x
  induction k generalizing x with
  | zero => rfl
  | succ k ih =>
    simp only [chase, chaseF, lookupF]
    cases List.find? (fun p => p.1 == x) repl with
    | none => rfl
    | some p => exact ih _

theorem chaseF_update (f : Nat → Option Nat) (x : Nat) (o : Option Nat) (hx : ∀ z, f z ≠ some x)
    (k z : Nat) (hz : z ≠ x) : chaseF (Function.update f x o) k z = chaseF f k z := by
  fun_induction chaseF f k z with
  | case1 => rfl
  | case2 k z y hfz ih =>
    rw [chaseF, Function.update_of_ne hz, hfz]
    exact ih fun h => hx z (h ▸ hfz)
  | case3 k z hfz => rw [chaseF, Function.update_of_ne hz, hfz]

/-- cut the start out of the domain and the next point is again outside the image (`hinj`: `f` is injective where defined) -/
theorem chaseF_terminates (k : Nat) (D : List Nat) (f : Nat → Option Nat) (x : Nat) (hD : D.length < k)
    (hinj : Relator.RightUnique fun b a => f a = some b)
    (hdom : ∀ z y, f z = some y → z ∈ D) (hx : ∀ z, f z ≠ some x) : ∃ y, chaseF f k x = some y := by
  induction k generalizing D f x with
  | zero => cases hD
  | succ k ih =>
    cases hfx : f x with
    | none => exact ⟨x, by rw [chaseF, hfx]⟩
    | some x' =>
      have hsub : ∀ z y, Function.update f x none z = some y → z ≠ x ∧ f z = some y := by
        intro z y hz
        have hzx : z ≠ x := by
          rintro rfl
          rw [Function.update_self] at hz
          cases hz
        exact ⟨hzx, Function.update_of_ne hzx none f ▸ hz⟩
      have hxD := hdom x x' hfx
      obtain ⟨y, hy⟩ := ih (D.erase x) (Function.update f x none) x'
        (by rw [List.length_erase_of_mem hxD]
            exact Nat.sub_one_lt_of_le (List.length_pos_of_mem hxD) (Nat.le_of_lt_succ hD))
        (fun c a b ha hb => hinj (hsub a c ha).2 (hsub b c hb).2)
        (fun z y hz => (List.mem_erase_of_ne (hsub z y hz).1).2 (hdom z y (hsub z y hz).2))
        (fun z hz => (hsub z x' hz).1 (hinj (hsub z x' hz).2 hfx))
      refine ⟨y, ?_⟩
      rw [chaseF, hfx]
      rwa [chaseF_update f x none hx _ _ fun h => hx x (hfx.trans (congrArg some h))] at hy

section
variable {f : Nat → Option Nat}

/-- the chain is read from its end: in that direction it is right-unique when `f` is injective (`chaseF_end_inj`) -/
theorem chaseF_some {k x y : Nat} (h : chaseF f k x = some y) :
    Relation.ReflTransGen (fun b a => f a = some b) y x ∧ f y = none := by
  fun_induction chaseF f k x with
  | case1 => cases h
  | case2 k x x' hfx ih => exact ⟨(ih h).1.tail hfx, (ih h).2⟩
  | case3 k x hfx =>
    cases h
    exact ⟨.refl, hfx⟩

/-- two chains with a common end are nested, and a point outside the image can only be the first point of a chain -/
theorem chaseF_end_inj (hinj : Relator.RightUnique fun b a => f a = some b) {k k' x x' y : Nat}
    (hx : ∀ z, f z ≠ some x) (hx' : ∀ z, f z ≠ some x') (h1 : chaseF f k x = some y) (h2 : chaseF f k' x' = some y) : x = x' := by
  rcases Relation.ReflTransGen.total_of_right_unique hinj (chaseF_some h1).1 (chaseF_some h2).1 with h | h
  · exact (Relation.ReflTransGen.cases_head h).resolve_right fun ⟨z, hz, _⟩ => hx z hz
  · exact ((Relation.ReflTransGen.cases_head h).resolve_right fun ⟨z, hz, _⟩ => hx' z hz).symm
end

theorem mapM_option_eq {α β : Type} {g : α → Option β} {g' : α → β} {l : List α}
    (h : ∀ x ∈ l, g x = some (g' x)) : l.mapM g = some (l.map g') := by
  induction l with
  | nil => rfl
  | cons a l ih =>
    rw [List.forall_mem_cons] at h
    rw [List.mapM_cons, h.1, ih h.2]
    rfl

theorem perm_range_facts {n : Nat} {l : List Nat} (h : l.Perm (List.range n)) :
    l.length = n ∧ (∀ i, i < n → l.getD i 0 < n) ∧
      (∀ i j, i < n → j < n → l.getD i 0 = l.getD j 0 → i = j) := by
  obtain rfl : l.length = n := by rw [h.length_eq, List.length_range]
  refine ⟨rfl, fun i hi => ?_, fun i j hi hj hij => ?_⟩
  · rw [← List.getElem_eq_getD (h := hi)]
    exact List.mem_range.1 (h.subset (List.getElem_mem hi))
  · rw [← List.getElem_eq_getD (h := hi), ← List.getElem_eq_getD (h := hj)] at hij
    exact (List.Nodup.getElem_inj_iff (h.nodup_iff.2 List.nodup_range)).1 hij

section core
variable {n : Nat} {seg : Nat → Bool} {a b : Nat → Nat}

/-- the replacement list of `pmxChild`; `seg` marks the positions between the cut points -/
def pmxRepl (n : Nat) (seg : Nat → Bool) (a b : Nat → Nat) : List (Nat × Nat) :=
  (((List.range n).filter seg).map (fun i => (a i, b i))).reverse

theorem lookup_sound {x y : Nat} (h : lookupF (pmxRepl n seg a b) x = some y) :
    ∃ i, i < n ∧ seg i = true ∧ a i = x ∧ b i = y := by
  obtain ⟨p, hp, rfl⟩ := Option.map_eq_some_iff.1 h
  have hpx := List.find?_some hp
  have hm := List.mem_of_find?_eq_some hp
  simp only [pmxRepl, List.mem_reverse, List.mem_map, List.mem_filter, List.mem_range] at hm
  obtain ⟨i, ⟨hi, hs⟩, rfl⟩ := hm
  exact ⟨i, hi, hs, beq_iff_eq.1 hpx, rfl⟩

theorem lookup_complete (ha : ∀ i j, i < n → j < n → a i = a j → i = j)
    {i : Nat} (hi : i < n) (hs : seg i = true) : lookupF (pmxRepl n seg a b) (a i) = some (b i) := by
  cases hl : lookupF (pmxRepl n seg a b) (a i) with
  | some y =>
    obtain ⟨j, hj, _, hja, rfl⟩ := lookup_sound hl
    rw [ha j i hj hi hja]
  | none =>
    rw [lookupF, Option.map_eq_none_iff, List.find?_eq_none] at hl
    refine (hl (a i, b i) ?_ BEq.rfl).elim
    simp only [pmxRepl, List.mem_reverse, List.mem_map, List.mem_filter, List.mem_range]
    exact ⟨i, ⟨hi, hs⟩, rfl⟩

/-- the parents read by position: `b` is the child's OWN parent, `a` the OTHER one -/
theorem pmx_core (ha_lt : ∀ i, i < n → a i < n) (ha : ∀ i j, i < n → j < n → a i = a j → i = j)
    (hb_lt : ∀ i, i < n → b i < n) (hb : ∀ i j, i < n → j < n → b i = b j → i = j) :
    ∃ o, (List.range n).mapM (fun i =>
        if seg i then some (a i) else chase (pmxRepl n seg a b) (n + 1) (b i)) = some o ∧
      o.Perm (List.range n) := by
  rw [chase_eq_chaseF]
  have hinj : Relator.RightUnique fun y x => lookupF (pmxRepl n seg a b) x = some y := by
    intro c x x' h1 h2
    obtain ⟨i, hi, _, rfl, rfl⟩ := lookup_sound h1
    obtain ⟨j, hj, _, rfl, hjb⟩ := lookup_sound h2
    rw [hb j i hj hi hjb]
  -- outside the segment the chain starts outside the image of the map, so it ends
  have hstart : ∀ i, i < n → seg i = false → ∀ z, lookupF (pmxRepl n seg a b) z ≠ some (b i) := by
    intro i hi hseg z h
    obtain ⟨j, hj, hs, _, hjb⟩ := lookup_sound h
    rw [hb j i hj hi hjb, hseg] at hs
    cases hs
  let g : Nat → Nat := fun i => if seg i then a i else (chaseF (lookupF (pmxRepl n seg a b)) (n + 1) (b i)).getD 0
  have hin : ∀ i, seg i = true → g i = a i := fun i hseg => by simp only [g, hseg, if_true]
  have hout : ∀ i, i < n → seg i = false → chaseF (lookupF (pmxRepl n seg a b)) (n + 1) (b i) = some (g i) := by
    intro i hi hseg
    obtain ⟨y, hy⟩ := chaseF_terminates (n + 1) (List.range n) _ (b i)
      (Nat.lt_succ_of_le (Nat.le_of_eq List.length_range)) hinj
      (fun z y h => by
        obtain ⟨j, hj, _, rfl, _⟩ := lookup_sound h
        exact List.mem_range.2 (ha_lt j hj))
      (hstart i hi hseg)
    simp only [g, hseg, Bool.false_eq_true, if_false, hy, Option.getD_some]
  clear_value g
  refine ⟨(List.range n).map g, mapM_option_eq fun i hi => ?_, ?_⟩
  · cases hseg : seg i
    · exact hout i (List.mem_range.1 hi) hseg
    · exact congrArg some (hin i hseg).symm
  -- a value taken inside the segment is in the domain of the map, the end of a chain is not
  have hcross : ∀ i j, i < n → j < n → seg i = true → seg j = false → g i ≠ g j := by
    intro i j hi hj hsi hsj hij
    have := (chaseF_some (hout j hj hsj)).2
    rw [← hij, hin i hsi, lookup_complete ha hi hsi] at this
    cases this
  refine List.Subperm.perm_of_length_le (List.subperm_of_subset ?_ ?_) (by simp)
  · refine List.Nodup.map_on (fun i hi j hj hij => ?_) List.nodup_range
    have hi := List.mem_range.1 hi
    have hj := List.mem_range.1 hj
    cases hsi : seg i <;> cases hsj : seg j
    · exact hb i j hi hj (chaseF_end_inj hinj (hstart i hi hsi) (hstart j hj hsj)
        (hout i hi hsi) (hij ▸ hout j hj hsj))
    · exact absurd hij.symm (hcross j i hj hi hsj hsi)
    · exact absurd hij (hcross i j hi hj hsi hsj)
    · exact ha i j hi hj (by rw [← hin i hsi, ← hin j hsj, hij])
  · intro v hv
    obtain ⟨i, hi, rfl⟩ := List.mem_map.1 hv
    have hi := List.mem_range.1 hi
    rw [List.mem_range]
    cases hsi : seg i
    · -- the end of a chain is its start `b i` or a value of the map, some `b j`
      rcases Relation.ReflTransGen.cases_head (chaseF_some (hout i hi hsi)).1 with h | ⟨z, hz, -⟩
      · exact h ▸ hb_lt i hi
      · obtain ⟨j, hj, _, _, hjb⟩ := lookup_sound hz
        exact hjb ▸ hb_lt j hj
    · exact hin i hsi ▸ ha_lt i hi
end core

theorem pmxChild_perm_any {n : Nat} {own other : List Nat} (cp1 cp2 : Nat)
    (h1 : own.Perm (List.range n)) (h2 : other.Perm (List.range n)) :
    ∃ o, pmxChild own other cp1 cp2 = some o ∧ o.Perm (List.range n) := by
  obtain ⟨hlen, hb_lt, hb⟩ := perm_range_facts h1
  obtain ⟨_, ha_lt, ha⟩ := perm_range_facts h2
  unfold pmxChild
  rw [hlen]
  exact pmx_core ha_lt ha hb_lt hb

end Platypus
