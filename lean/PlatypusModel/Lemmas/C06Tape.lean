import PlatypusModel.Model.Operators
/-!
Reasoning about the operator models without taking their `do` blocks apart.

The models thread the draw tape by hand (`M α β = Tape α → Except OpErr (β × Tape α)`); the C06 statements say "if the
operator returns, its value is such and such": `Ensures x P`.  The lemmas push it through `>>=`, `if` and `.ok`, one step
per line of the model; `pure`, the `fun tape => …` wrappers and the `match (r, tape) with | ((a, b), tape) => …` that `do`
puts after every `←` reduce by unfolding (structure eta), so the lemmas apply to the model terms as they stand.  Build on
the `Ensures` forms (`*_outcome`, `*_spec`, `*_lt`); the properties are stated with a hypothesis
`h : op … tape = .ok (x, tape')` and follow by `(… : Ensures (op … tape) P) _ _ h` or after `revert x tape'`.

Two traps:
* the continuation has to be elaborated against the goal (`refine (worker …).bind fun r tape hr => ?_`, or `exact`): in a
  `have` that does not state the type, its final `.ok` is unified with the unknown continuation itself;
* the continuation binds the result as one variable and uses projections (`fun r tape hr => … hr.1 …`): a pattern
  `fun ⟨a, b⟩ tape hr` compiles to an auxiliary matcher at every use.

For the symmetry statements, equations between two runs, three rules move an `Except.map` through `>>=` and `if`.
-/
namespace Platypus

/-- `h : pure a = .ok b` / `.ok a = .ok b` → component equations -/
macro "ok_inj" "at" h:ident : tactic =>
  `(tactic| simp only [pure, Except.pure, Except.ok.injEq, Prod.mk.injEq] at $h:ident)

def Ensures {ε β τ : Type} (x : Except ε (β × τ)) (P : β → Prop) : Prop :=
  ∀ b t, x = .ok (b, t) → P b

namespace Ensures
variable {ε β γ τ τ' : Type} {P : β → Prop}

theorem ok {b : β} {t : τ} (h : P b) : Ensures (.ok (b, t) : Except ε (β × τ)) P := by
  intro b' t' e
  cases e
  exact h

theorem error {e : ε} : Ensures (.error e : Except ε (β × τ)) P :=
  fun _ _ h => nomatch h

/-- `τ` need not be a tape: the SBX kernel returns a pair of values and no tape, read as `β × τ` -/
theorem bind {x : Except ε (β × τ)} {f : β × τ → Except ε (γ × τ')} {Q : β → Prop} {R : γ → Prop}
    (hx : Ensures x Q) (hf : ∀ b t, Q b → Ensures (f (b, t)) R) : Ensures (x >>= f) R := by
  intro c t' h
  cases x with
  | error e => cases h
  | ok r => exact hf r.1 r.2 (hx r.1 r.2 rfl) c t' h

theorem bind_any {x : Except ε (β × τ)} {f : β × τ → Except ε (γ × τ')} {R : γ → Prop}
    (hf : ∀ b t, Ensures (f (b, t)) R) : Ensures (x >>= f) R :=
  bind (Q := fun _ => True) (fun _ _ _ => trivial) fun b t _ => hf b t

theorem ite {c : Prop} [Decidable c] {x y : Except ε (β × τ)} (hx : c → Ensures x P) (hy : ¬c → Ensures y P) :
    Ensures (if c then x else y) P := by
  split
  · exact hx ‹_›
  · exact hy ‹_›

theorem mono {x : Except ε (β × τ)} {Q : β → Prop} (hx : Ensures x P) (h : ∀ b, P b → Q b) : Ensures x Q :=
  fun b t e => h b (hx b t e)

end Ensures

section
variable {ε β β' γ γ' τ : Type}

theorem map_bind_map {x : Except ε β} {y : Except ε β'} {r : β → β'} {s : γ → γ'} {f : β → Except ε γ}
    {g : β' → Except ε γ'} (hxy : x.map r = y) (h : ∀ b, (f b).map s = g (r b)) : (x >>= f).map s = y >>= g := by
  subst hxy
  cases x with
  | error e => rfl
  | ok b => exact h b

theorem map_bind_eq {x : Except ε (β × τ)} {s : γ → γ'} {f : β × τ → Except ε γ} {g : β × τ → Except ε γ'}
    (h : ∀ b t, (f (b, t)).map s = g (b, t)) : (x >>= f).map s = x >>= g :=
  map_bind_map (r := id) (id_map x) fun b => h b.1 b.2

theorem map_ite {c : Prop} [Decidable c] {s : γ → γ'} {x y : Except ε γ} {x' y' : Except ε γ'}
    (hx : c → x.map s = x') (hy : ¬c → y.map s = y') : (if c then x else y).map s = if c then x' else y' := by
  split
  · exact hx ‹_›
  · exact hy ‹_›

end

theorem popRandrange_lt {α : Type} (n : Nat) (tape : Tape α) : Ensures (popRandrange n tape) fun k => k < n := by
  unfold popRandrange
  split
  · refine .ite (fun h => .ok ?_) fun _ => .error
    rw [Bool.and_eq_true, decide_eq_true_eq] at h
    exact h.2
  · exact .error

theorem popDistinct_lt {α : Type} (n i fuel : Nat) (tape : Tape α) :
    Ensures (popDistinct n i fuel tape) fun k => k < n := by
  induction fuel generalizing tape with
  | zero => exact .error
  | succ f ih => exact (popRandrange_lt n tape).bind fun j t hj => .ite (fun _ => ih t) fun _ => .ok hj

theorem popTwo_lt {α : Type} (n : Nat) (tape : Tape α) : Ensures (popTwo n tape) fun ij => ij.1 < n ∧ ij.2 < n :=
  (popRandrange_lt n tape).bind fun _ _ hi => (popDistinct_lt n _ _ _).bind fun _ _ hj => .ok ⟨hi, hj⟩

end Platypus
