import PlatypusModel.Lemmas.MinMax
import Mathlib.Data.Nat.Cast.Order.Ring
import Mathlib.Algebra.Order.BigOperators.Group.List
import Mathlib.Algebra.Order.Group.MinMax
import Mathlib.Algebra.Order.Field.Basic
/-!
# Lemmas for the indicators (C16, C10)

GD, IGD and the additive ε normalise the reference set, normalise the feasible members of the evaluated set with the same
bounds, and compute a value from the two lists of points: the `_eq` theorems write each as `(refBounds ops nobjs ref).map` of
its value (`meanDist`, `epsVal`), and the rest is about the values.  Values and closed forms use only the operations the
model's functions take, so they hold at `Float`; order and field laws enter with the facts.
-/
namespace Platypus

/-! The indicators combine lists with one entry per objective by `zipWith` / `zip`.  Of tables `tab k f` the combination is
the table of the entry-wise combination (up to the shorter), so a statement about lists becomes one about an entry, with no
index bound.  A list of unknown length is a table too: what needs the lengths of the bounds and of `S` only is proved for
objective vectors of any length, and rewrites under a `List.map` over the members of a set. -/
section tab
variable {β γ δ : Type}

def tab (k : Nat) (f : Nat → β) : List β := (List.range k).map f

@[simp] theorem length_tab (k : Nat) (f : Nat → β) : (tab k f).length = k := by simp [tab]

theorem exists_tab [Nonempty β] {k : Nat} {l : List β} (h : l.length = k) : ∃ f, l = tab k f := by
  refine ⟨fun i => l.getD i (Classical.arbitrary β), List.ext_getElem (by simp [h]) fun i h1 _ => ?_⟩
  simp [tab, List.getElem?_eq_getElem h1]

theorem zipWith_tab (g : β → γ → δ) (k m : Nat) (u : Nat → β) (v : Nat → γ) :
    List.zipWith g (tab k u) (tab m v) = tab (min k m) fun i => g (u i) (v i) := by
  -- both ranges are cut to `range (min k m)`, where `zipWith` pairs every index with itself
  rw [tab, tab, List.zipWith_map, List.zipWith_eq_zipWith_take_min, List.length_range, List.length_range, List.take_range,
    List.take_range, Nat.min_eq_left (Nat.min_le_left k m), Nat.min_eq_left (Nat.min_le_right k m), List.zipWith_self]
  rfl

theorem zip_tab (k m : Nat) (u : Nat → β) (v : Nat → γ) : (tab k u).zip (tab m v) = tab (min k m) fun i => (u i, v i) :=
  zipWith_tab Prod.mk k m u v

theorem exists_tab' [Nonempty β] (l : List β) : ∃ k f, l = tab k f := ⟨_, exists_tab rfl⟩

theorem map_tab (g : β → γ) (k : Nat) (u : Nat → β) : (tab k u).map g = tab k fun i => g (u i) := by
  simp only [tab, List.map_map, Function.comp_def]

theorem tab_congr {k : Nat} {u v : Nat → β} (h : ∀ i < k, u i = v i) : tab k u = tab k v :=
  List.map_congr_left fun i hi => h i (List.mem_range.mp hi)

theorem forall_mem_tab {k : Nat} {u : Nat → β} {P : β → Prop} : (∀ p ∈ tab k u, P p) ↔ ∀ i < k, P (u i) := by
  simp only [tab, List.forall_mem_map, List.mem_range]

theorem getD_tab {k i : Nat} (hi : i < k) (u : Nat → β) (d : β) : (tab k u).getD i d = u i := by
  simp [tab, hi]

theorem all_tab_congr {p : β → Bool} {q : γ → Bool} {k : Nat} {u : Nat → β} {v : Nat → γ}
    (h : ∀ i < k, p (u i) = q (v i)) : (tab k u).all p = (tab k v).all q := by
  -- `l.all p = (l.map p).all id`
  rw [← Function.id_comp p, ← Function.id_comp q, ← List.all_map, ← List.all_map, map_tab, map_tab, tab_congr h]

theorem any_tab_congr {p : β → Bool} {q : γ → Bool} {k : Nat} {u : Nat → β} {v : Nat → γ}
    (h : ∀ i < k, p (u i) = q (v i)) : (tab k u).any p = (tab k v).any q := by
  rw [← Function.id_comp p, ← Function.id_comp q, ← List.any_map, ← List.any_map, map_tab, map_tab, tab_congr h]

end tab

section normalised
variable {α : Type} [Sub α] [Div α]

theorem normObjs_length {mn mx objs : List α} {k : Nat} (hmn : mn.length = k) (hmx : mx.length = k) (ho : objs.length = k) :
    (normObjs mn mx objs).length = k := by
  simp [normObjs, hmn, hmx, ho]

variable [BEq α] [OfNat α 0]

def normSet (b : List α × List α) (sols : List (ISol α)) : List (List α) :=
  (sols.filter isFeasible).map fun s => normObjs b.1 b.2 s.objs

theorem normSet_eq_nil (b : List α × List α) {set : List (ISol α)} (hset : ∀ s ∈ set, isFeasible s = false) :
    normSet b set = [] :=
  List.map_eq_nil_iff.mpr (List.filter_eq_nil_iff.mpr fun s hs => ne_true_of_eq_false (hset s hs))

end normalised

section values
variable {α : Type} [LT α] [DecidableLT α] [Sub α] [OfNat α 0]

/-- the per-pair value of the additive ε indicator (repaired code) -/
def epsDiff (dirs : List Bool) (a r : List α) : α :=
  pyMaxList 0 (List.zipWith (fun (dk : Bool × α) rk => if dk.1 then rk - dk.2 else dk.2 - rk) (dirs.zip a) r)

def epsVal (dirs : List Bool) (R F : List (List α)) : α :=
  pyMaxList 0 (R.map fun r => pyMinList 0 (F.map fun a => epsDiff dirs a r))

section
variable [Neg α]

/-- `ds` in `spacing` -/
def nearestOther (ops : NumOps α) (pts : List (List α)) : List α :=
  pts.zipIdx.map fun (x, i) => pyMinList 0 ((pts.zipIdx.filter fun q => q.2 != i).map fun q => manhattan ops x q.1)

theorem nearestOther_map (ops : NumOps α) (g : List α → List α) (pts : List (List α))
    (h : ∀ x ∈ pts, ∀ y ∈ pts, manhattan ops (g x) (g y) = manhattan ops x y) :
    nearestOther ops (pts.map g) = nearestOther ops pts := by
  unfold nearestOther
  rw [List.zipIdx_map, List.map_map]
  refine List.map_congr_left fun ⟨x, i⟩ hp => ?_
  show pyMinList 0 (((pts.zipIdx.map (Prod.map g id)).filter fun q => q.2 != i).map fun q => manhattan ops (g x) q.1) = _
  rw [List.filter_map, List.map_map]
  refine congrArg (pyMinList 0) (List.map_congr_left fun q hq => ?_)
  exact h x (List.fst_mem_of_mem_zipIdx hp) q.1 (List.fst_mem_of_mem_zipIdx (List.mem_of_mem_filter hq))

end

variable [Add α] [Div α] [OfNat α 1]

/-- the value of GD (`F`: members of the set, `R`: reference points) and, with the two lists exchanged, of IGD -/
def meanDist (ops : NumOps α) (d : α) (F R : List (List α)) : α :=
  ops.pow (ops.sum (F.map fun x => ops.pow (distanceToNearest ops x R) d)) (1 / d) / ofNatA F.length

end values

theorem Except.map_eq_ok {ε β γ : Type} {f : β → γ} {x : Except ε β} {v : γ} (h : x.map f = .ok v) :
    ∃ b, x = .ok b ∧ f b = v := by
  cases x with
  | error e => cases h
  | ok b => exact ⟨b, rfl, Except.ok.inj h⟩

section programs
variable {α : Type} [BEq α] [OfNat α 0]

def column (sols : List (ISol α)) (i : Nat) : List α := (sols.filter isFeasible).map fun s => s.objs.getD i 0

theorem column_ne_nil {sols : List (ISol α)} (h : sols.filter isFeasible ≠ []) (i : Nat) : column sols i ≠ [] :=
  fun he => h (List.map_eq_nil_iff.mp he)

variable [LT α] [DecidableLT α]

theorem boundsOf_eq (nobjs : Nat) (sols : List (ISol α)) :
    boundsOf nobjs sols = if sols.filter isFeasible = [] then .error .noFeasible
      else .ok (tab nobjs fun i => pyMinList 0 (column sols i), tab nobjs fun i => pyMaxList 0 (column sols i)) := by
  simp only [boundsOf, List.isEmpty_iff]
  rfl

theorem boundsOf_ok {nobjs : Nat} {sols : List (ISol α)} {b : List α × List α} (h : boundsOf nobjs sols = .ok b) :
    sols.filter isFeasible ≠ [] ∧
      b = (tab nobjs fun i => pyMinList 0 (column sols i), tab nobjs fun i => pyMaxList 0 (column sols i)) := by
  rw [boundsOf_eq] at h
  split at h
  · cases h
  · exact ⟨‹_›, (Except.ok.inj h).symm⟩

theorem boundsOf_length {nobjs : Nat} {sols : List (ISol α)} {b : List α × List α} (h : boundsOf nobjs sols = .ok b) :
    b.1.length = nobjs ∧ b.2.length = nobjs := by
  rw [(boundsOf_ok h).2]
  exact ⟨length_tab _ _, length_tab _ _⟩

variable [Sub α] [Neg α]

/-- the bounds an indicator's constructor keeps -/
def refBounds (ops : NumOps α) (nobjs : Nat) (ref : List (ISol α)) : Except IErr (List α × List α) :=
  (boundsOf nobjs ref).bind fun b => (checkRanges ops.eps b.1 b.2).map fun _ => b

theorem refBounds_ok {ops : NumOps α} {nobjs : Nat} {ref : List (ISol α)} {b : List α × List α}
    (h : refBounds ops nobjs ref = .ok b) : boundsOf nobjs ref = .ok b ∧ checkRanges ops.eps b.1 b.2 = .ok () := by
  unfold refBounds at h
  generalize boundsOf nobjs ref = x at h ⊢
  cases x with
  | error e => cases h
  | ok b' =>
    obtain ⟨u, hc, rfl⟩ := Except.map_eq_ok h
    exact ⟨rfl, hc⟩

variable [Div α]

theorem refNormalize_eq (ops : NumOps α) (nobjs : Nat) (ref : List (ISol α)) :
    refNormalize ops nobjs ref = (refBounds ops nobjs ref).map fun b => (b, normSet b ref) := by
  unfold refNormalize refBounds
  cases ref with
  | nil => rfl
  | cons s ref =>
    cases boundsOf nobjs (s :: ref) with
    | error e => rfl
    | ok b =>
      obtain ⟨mn, mx⟩ := b
      show (checkRanges ops.eps mn mx).bind _ = ((checkRanges ops.eps mn mx).map _).map _
      cases checkRanges ops.eps mn mx <;> rfl

theorem normSet_ref_isEmpty {ops : NumOps α} {nobjs : Nat} {ref : List (ISol α)} {b : List α × List α}
    (h : refBounds ops nobjs ref = .ok b) : (normSet b ref).isEmpty = false := by
  rw [normSet, List.isEmpty_map, ← Bool.not_eq_true, List.isEmpty_iff]
  exact (boundsOf_ok (refBounds_ok h).1).1

/-- `h` may use that the range check, which `calculate` repeats, passes and that `ref` has a feasible member -/
theorem bind_refNormalize {β : Type} (ops : NumOps α) (nobjs : Nat) (ref : List (ISol α))
    (k : (List α × List α) × List (List α) → Except IErr β) (V : List α × List α → β)
    (h : ∀ b, refBounds ops nobjs ref = .ok b → k (b, normSet b ref) = .ok (V b)) :
    refNormalize ops nobjs ref >>= k = (refBounds ops nobjs ref).map V := by
  rw [refNormalize_eq]
  cases hb : refBounds ops nobjs ref with
  | error e => rfl
  | ok b => exact h b hb

theorem epsilonIndicator_eq (ops : NumOps α) (dirs : List Bool) (nobjs : Nat) (ref set : List (ISol α)) :
    epsilonIndicator ops true dirs nobjs ref set =
      (refBounds ops nobjs ref).map fun b =>
        if (normSet b set).isEmpty then ops.inf else epsVal dirs (normSet b ref) (normSet b set) := by
  refine bind_refNormalize ops nobjs ref _ _ fun b hb => ?_
  have hne := normSet_ref_isEmpty hb
  simp only [normSet, List.isEmpty_map] at hne ⊢
  simp only [hne, (refBounds_ok hb).2]
  split <;> rfl

variable [Add α] [OfNat α 1]

theorem generationalDistance_eq (ops : NumOps α) (nobjs : Nat) (d : α) (ref set : List (ISol α)) :
    generationalDistance ops nobjs d ref set =
      (refBounds ops nobjs ref).map fun b =>
        if (normSet b set).isEmpty then ops.inf else meanDist ops d (normSet b set) (normSet b ref) := by
  refine bind_refNormalize ops nobjs ref _ _ fun b hb => ?_
  simp only [normSet, List.isEmpty_map, meanDist, List.length_map, (refBounds_ok hb).2]
  split <;> rfl

theorem invertedGenerationalDistance_eq (ops : NumOps α) (nobjs : Nat) (d : α) (ref set : List (ISol α)) :
    invertedGenerationalDistance ops nobjs d ref set =
      (refBounds ops nobjs ref).map fun b => meanDist ops d (normSet b ref) (normSet b set) := by
  refine bind_refNormalize ops nobjs ref _ _ fun b hb => ?_
  simp only [normSet_ref_isEmpty hb, (refBounds_ok hb).2]
  split <;> rfl

end programs

/-! The contract on the numeric primitives.  It does not pin them down (over ℚ, `sqrt := fun _ => 0` and
`pow x y := if y = 2 then x * x else 0` meet it): C16 proves sign, zero and monotonicity facts, C10 uses `pow_two` only,
nothing uses `sqrt_mono`.  No instance is exhibited: that the real `sqrt`, `pow` and `Σ` meet it is not proved. -/
section contract
variable {α : Type} [Field α] [LinearOrder α] [IsStrictOrderedRing α]

structure OpsOk (ops : NumOps α) : Prop where
  sum_eq : ∀ l, ops.sum l = l.sum
  sqrt_nonneg : ∀ x, 0 ≤ ops.sqrt x
  sqrt_zero : ops.sqrt 0 = 0
  sqrt_mono : ∀ x y, 0 ≤ x → x ≤ y → ops.sqrt x ≤ ops.sqrt y
  pow_nonneg : ∀ x y, 0 ≤ x → 0 ≤ ops.pow x y
  pow_zero : ∀ y, 0 < y → ops.pow 0 y = 0
  pow_two : ∀ x, ops.pow x (1 + 1) = x * x
  inf_pos : 0 < ops.inf

end contract

section facts
variable {α : Type} [Field α]

theorem ofNatA_eq (n : Nat) : (ofNatA n : α) = (n : α) := by
  induction n with
  | zero => simp [ofNatA]
  | succ n ih => simp [ofNatA, ih]

/-- a flip sends the normalised value `n` to `1 - n`, or to `0 - n` when the range is degenerate -/
theorem norm_flip (lo hi x : α) : (-x - -hi) / (-lo - -hi) = (hi - lo) / (hi - lo) - (x - lo) / (hi - lo) := by
  rw [neg_sub_neg, neg_sub_neg, ← sub_div, sub_sub_sub_cancel_right]

theorem norm_neg_sub (lo hi x y : α) :
    (-x - -hi) / (-lo - -hi) - (-y - -hi) / (-lo - -hi) = (y - lo) / (hi - lo) - (x - lo) / (hi - lo) := by
  rw [norm_flip, norm_flip, sub_sub_sub_cancel_left]

variable [LinearOrder α]

theorem clip_eq (x : α) : pyMaxList 0 [0, pyMinList 0 [1, x]] = max 0 (min 1 x) := by
  rw [pyMaxList_cons, pyMinList_cons]; rfl

theorem boundsOf_le {nobjs : Nat} {sols : List (ISol α)} {b : List α × List α} (h : boundsOf nobjs sols = .ok b) :
    ∀ p ∈ b.1.zip b.2, p.1 ≤ p.2 := by
  obtain ⟨hne, rfl⟩ := boundsOf_ok h
  rw [zip_tab, Nat.min_self, forall_mem_tab]
  exact fun i _ => le_pyMaxList 0 (pyMinList_spec 0 (column_ne_nil hne i)).1

theorem epsVal_mono (dirs : List Bool) (R : List (List α)) {β : Type} (g : β → List α) {F F' : List β}
    (h : List.Forall₂ (fun a a' => ∀ r, epsDiff dirs (g a) r ≤ epsDiff dirs (g a') r) F F') :
    epsVal dirs R (F.map g) ≤ epsVal dirs R (F'.map g) := by
  refine pyMaxList_mono 0 ?_
  rw [List.forall₂_map_left_iff, List.forall₂_map_right_iff, List.forall₂_same]
  intro r _
  refine pyMinList_mono 0 ?_
  rw [List.map_map, List.map_map, List.forall₂_map_left_iff, List.forall₂_map_right_iff]
  exact h.imp fun _ _ hw => hw r

theorem epsDiff_self (dirs : List Bool) (r : List α) : epsDiff dirs r r = 0 := by
  unfold epsDiff
  by_cases hl : List.zipWith (fun (dk : Bool × α) rk => if dk.1 then rk - dk.2 else dk.2 - rk) (dirs.zip r) r = []
  · rw [hl]; rfl
  · obtain ⟨i, hi, hieq⟩ := List.mem_iff_getElem.mp (pyMaxList_spec (0 : α) hl).1
    rw [← hieq, List.getElem_zipWith, List.getElem_zip]
    split <;> exact sub_self _

theorem euclid_nonneg {ops : NumOps α} (h : OpsOk ops) (x y : List α) : 0 ≤ euclid ops x y := h.sqrt_nonneg _

theorem euclid_self {ops : NumOps α} (h : OpsOk ops) (x : List α) : euclid ops x x = 0 := by
  unfold euclid
  rw [List.zipWith_self, h.sum_eq, List.sum_eq_zero, h.sqrt_zero]
  refine List.forall_mem_map.mpr fun b _ => ?_
  rw [h.pow_two, sub_self, mul_zero]

/-- the distance sees the square of each difference: the sign is free -/
theorem euclid_tab_congr {ops : NumOps α} (h : OpsOk ops) {a b : Nat} {u v u' v' : Nat → α}
    (hd : ∀ i, u' i - v' i = u i - v i ∨ u' i - v' i = v i - u i) :
    euclid ops (tab a u') (tab b v') = euclid ops (tab a u) (tab b v) := by
  have hsq (i) : (u' i - v' i) * (u' i - v' i) = (u i - v i) * (u i - v i) := by
    obtain hi | hi := hd i
    · rw [hi]
    · rw [hi, ← neg_sub (u i) (v i), neg_mul_neg]
  simp only [euclid, zipWith_tab, h.pow_two, hsq]

theorem distanceToNearest_nonneg {ops : NumOps α} (h : OpsOk ops) (x : List α) (set : List (List α)) :
    0 ≤ distanceToNearest ops x set := by
  unfold distanceToNearest
  split
  · exact h.inf_pos.le
  · rename_i hne
    obtain ⟨y, _, hy, _⟩ := exists_pyMinList_map ops.inf (euclid ops x) (mt List.isEmpty_iff.mpr hne)
    exact hy ▸ euclid_nonneg h x y

theorem distanceToNearest_self {ops : NumOps α} (h : OpsOk ops) (x : List α) (set : List (List α)) (hx : x ∈ set) :
    distanceToNearest ops x set = 0 := by
  apply le_antisymm _ (distanceToNearest_nonneg h x set)
  rw [distanceToNearest, if_neg (mt List.isEmpty_iff.mp (List.ne_nil_of_mem hx)), ← euclid_self h x]
  exact pyMinList_le _ (List.mem_map_of_mem hx)

variable [IsStrictOrderedRing α]

theorem ofNatA_nonneg (n : Nat) : (0 : α) ≤ ofNatA n := by
  rw [ofNatA_eq]; exact Nat.cast_nonneg n

theorem absA_eq (x : α) : absA x = |x| := by
  unfold absA
  split_ifs with h
  · exact (abs_of_neg h).symm
  · exact (abs_of_nonneg (not_lt.mp h)).symm

theorem clip_one_sub (x : α) : max 0 (min 1 (1 - x)) = 1 - max 0 (min 1 x) := by
  rw [← min_sub_sub_left, ← max_sub_sub_left, sub_zero, sub_self, max_min_distrib_left, max_eq_right zero_le_one]

theorem norm_le_norm {lo hi x y : α} (h : lo ≤ hi) (hxy : x ≤ y) : (x - lo) / (hi - lo) ≤ (y - lo) / (hi - lo) :=
  div_le_div_of_nonneg_right (sub_le_sub_right hxy _) (sub_nonneg.mpr h)

theorem meanDist_nonneg {ops : NumOps α} (h : OpsOk ops) (d : α) (F R : List (List α)) : 0 ≤ meanDist ops d F R := by
  refine div_nonneg (h.pow_nonneg _ _ ?_) (ofNatA_nonneg _)
  rw [h.sum_eq]
  exact List.sum_nonneg (List.forall_mem_map.mpr fun x _ => h.pow_nonneg _ _ (distanceToNearest_nonneg h x R))

theorem meanDist_eq_zero {ops : NumOps α} (h : OpsOk ops) {d : α} (hd : 0 < d) {F R : List (List α)} (hFR : ∀ x ∈ F, x ∈ R) :
    meanDist ops d F R = 0 := by
  unfold meanDist
  rw [h.sum_eq, List.sum_eq_zero, h.pow_zero _ (one_div_pos.mpr hd), zero_div]
  refine List.forall_mem_map.mpr fun x hx => ?_
  rw [distanceToNearest_self h x R (hFR x hx), h.pow_zero d hd]

/-- `≤ 0`: every point is matched by itself.  `≥ 0`: no point is better in the first objective than one that is
extremal there -/
theorem epsVal_self (dirs : List Bool) (R : List (List α)) : epsVal dirs R R = 0 := by
  by_cases hR : R = []
  · rw [hR]; rfl
  apply le_antisymm
  · obtain ⟨r, hr, he, _⟩ := exists_pyMaxList_map 0 (fun r => pyMinList 0 (R.map fun a => epsDiff dirs a r)) hR
    rw [epsVal, he]
    exact (pyMinList_le 0 (List.mem_map_of_mem hr)).trans (epsDiff_self dirs r).le
  · obtain ⟨r0, hr0, _, hmin⟩ :=
      exists_pyMinList_map 0 (fun a : List α => if dirs.headD false then -(a.headD 0) else a.headD 0) hR
    obtain ⟨a, ha, he, _⟩ := exists_pyMinList_map 0 (fun a => epsDiff dirs a r0) hR
    refine le_trans ?_ (le_pyMaxList 0 (List.mem_map_of_mem hr0))
    rw [he]
    have hm := hmin _ ha
    -- without a first objective (no direction, an empty vector) the difference is `0` by definition
    rcases dirs with _ | ⟨d0, dt⟩
    · exact le_rfl
    rcases a with _ | ⟨a0, at'⟩
    · exact le_rfl
    rcases r0 with _ | ⟨r00, rt⟩
    · exact le_rfl
    refine le_trans ?_ (le_pyMaxList 0 List.mem_cons_self)
    cases d0
    · exact sub_nonneg.mpr hm
    · exact sub_nonneg.mpr (neg_le_neg_iff.mp hm)

/-- `s'` is worse than or equal to `s` in every declared direction (`true`: maximised) -/
def Worse (dirs : List Bool) (s s' : ISol α) : Prop :=
  s.cv = s'.cv ∧ s.objs.length = s'.objs.length ∧
    ∀ q ∈ dirs.zip (s.objs.zip s'.objs), if q.1 then q.2.2 ≤ q.2.1 else q.2.1 ≤ q.2.2

theorem epsDiff_mono (dirs : List Bool) (mn mx r : List α) (hb : ∀ p ∈ mn.zip mx, p.1 ≤ p.2) (s s' : ISol α)
    (hw : Worse dirs s s') :
    epsDiff dirs (normObjs mn mx s.objs) r ≤ epsDiff dirs (normObjs mn mx s'.objs) r := by
  obtain ⟨_, hl, hq⟩ := hw
  generalize s.objs = o at hl hq ⊢
  generalize s'.objs = o' at hl hq ⊢
  -- only `hl` relates the lengths of the six lists: each is a table of its own length
  obtain ⟨a, d, rfl⟩ := exists_tab' dirs
  obtain ⟨b, lo, rfl⟩ := exists_tab' mn
  obtain ⟨c, hi, rfl⟩ := exists_tab' mx
  obtain ⟨e, ρ, rfl⟩ := exists_tab' r
  obtain ⟨m, x', rfl⟩ := exists_tab' o'
  obtain ⟨x, rfl⟩ := exists_tab (hl.trans (length_tab _ _))
  simp only [zip_tab, Nat.min_self, forall_mem_tab, lt_min_iff] at hq hb
  simp only [epsDiff, normObjs, zip_tab, zipWith_tab]
  refine pyMaxList_mono 0 ?_
  rw [tab, tab, List.forall₂_map_left_iff, List.forall₂_map_right_iff, List.forall₂_same]
  intro i hi
  simp only [List.mem_range, lt_min_iff] at hi
  have hlo := hb i hi.1.2.1
  have hqi := hq i ⟨hi.1.1, hi.1.2.2⟩
  cases hd : d i
  · rw [hd] at hqi
    exact sub_le_sub_right (norm_le_norm hlo hqi) _
  · rw [hd] at hqi
    exact sub_le_sub_left (norm_le_norm hlo hqi) _

end facts

end Platypus
