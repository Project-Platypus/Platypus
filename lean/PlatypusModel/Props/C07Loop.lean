import PlatypusModel.Props.C06Subset
set_option linter.unusedSectionVars false  -- `varyAll_valid` takes classes it does not use
/-!
# C07 — why every argument of the problem function is valid, for every run of a generational algorithm

`Props/C07.lean` judges recorded traces of real runs.  `run_valid` is a statement for *all* runs of a skeleton (`GenLoop`)
that the library's generational algorithms share: parent groups are selected from the current population by any rule,
which may draw; a variator valid for the declared types produces the offspring; the next population is any function of
offspring and population.

Outside the skeleton: a survival rule that draws (the `random.choice` in NSGA-III's niching and eps-MOEA's replacement),
since `survive` is pure; parents taken from an archive (eps-MOEA, the restarts of eps-NSGA-II), unless `pop` is read as
everything the algorithm keeps (`Sane.select_mem`).  `OperValid` is a hypothesis on the variator: C06 proves that the
combinators preserve it; for the base operators it has the theorems about the curried functions (`sbxOp_valid`, …),
whose packaging as an `Oper` is in the driver, over `Float`.
-/
namespace Platypus

section
variable {α : Type} [LE α] [DecidableLE α] [LT α] [DecidableLT α] [BEq α]

structure GenLoop (α : Type) where
  select : List (OSol α) → M α (List (List (OSol α)))
  vary : Oper α
  survive : List (OSol α) → List (OSol α) → List (OSol α)       -- offspring, population ↦ next population

def varyAll (v : Oper α) : List (List (OSol α)) → M α (List (OSol α))
  | [] => fun tape => .ok ([], tape)
  | g :: gs => fun tape => do
    let (kids, tape) ← v.evolve g tape
    let (rest, tape) ← varyAll v gs tape
    pure (kids ++ rest, tape)

/-- one generation: the offspring (what gets evaluated) and the next population -/
def GenLoop.generation (L : GenLoop α) (pop : List (OSol α)) : M α (List (OSol α) × List (OSol α)) := fun tape => do
  let (groups, tape) ← L.select pop tape
  let (offspring, tape) ← varyAll L.vary groups tape
  pure ((offspring, L.survive offspring pop), tape)

/-- `n` generations: everything that was evaluated on the way, and the final population -/
def GenLoop.run (L : GenLoop α) : Nat → List (OSol α) → M α (List (OSol α) × List (OSol α))
  | 0, pop => fun tape => .ok (([], pop), tape)
  | n + 1, pop => fun tape => do
    let ((off, pop'), tape) ← L.generation pop tape
    let ((offs, popn), tape) ← L.run n pop' tape
    pure ((off ++ offs, popn), tape)

structure GenLoop.Sane (L : GenLoop α) : Prop where
  select_mem : ∀ pop tape groups tape', L.select pop tape = .ok (groups, tape') → ∀ g ∈ groups, ∀ p ∈ g, p ∈ pop
  survive_mem : ∀ off pop, ∀ s ∈ L.survive off pop, s ∈ off ∨ s ∈ pop

theorem varyAll_valid (types : List (TypeD α)) (v : Oper α) (hv : OperValid types v) (groups : List (List (OSol α)))
    (hg : ∀ g ∈ groups, ∀ p ∈ g, ValidSol types p) (tape tape' : Tape α) (kids : List (OSol α))
    (h : varyAll v groups tape = .ok (kids, tape')) : ∀ c ∈ kids, ValidSol types c := by
  suffices H : ∀ tape, Ensures (varyAll v groups tape) fun kids => ∀ c ∈ kids, ValidSol types c from H tape kids tape' h
  clear h
  induction groups with
  | nil => exact fun _ => .ok nofun
  | cons g gs ih =>
    obtain ⟨hg1, hgs⟩ := List.forall_mem_cons.mp hg
    exact fun tape => (hv.ensures hg1 tape).bind fun k tape hk =>
      (ih hgs tape).bind fun r _ hr => .ok (List.forall_mem_append.mpr ⟨hk, hr⟩)

/-- one generation keeps validity: offspring valid, next population valid -/
theorem generation_valid (types : List (TypeD α)) (L : GenLoop α) (hs : L.Sane) (hv : OperValid types L.vary)
    (pop : List (OSol α)) (hp : ∀ p ∈ pop, ValidSol types p) (tape tape' : Tape α) (off pop' : List (OSol α))
    (h : L.generation pop tape = .ok ((off, pop'), tape')) :
    (∀ c ∈ off, ValidSol types c) ∧ (∀ p ∈ pop', ValidSol types p) := by
  refine Ensures.bind (R := fun r => (∀ c ∈ r.1, ValidSol types c) ∧ (∀ p ∈ r.2, ValidSol types p))
    (hs.select_mem pop tape) (fun groups tape hsel => ?_) _ _ h
  refine Ensures.bind
    (fun o t => varyAll_valid types L.vary hv groups (fun g hg p hpg => hp p (hsel g hg p hpg)) tape t o)
    fun o _ hoff => .ok ⟨hoff, fun p hpm => ?_⟩
  exact (hs.survive_mem o pop p hpm).elim (hoff p) (hp p)

theorem run_spec {types : List (TypeD α)} {L : GenLoop α} (hs : L.Sane) (hv : OperValid types L.vary)
    (n : Nat) {pop : List (OSol α)} (hp : ∀ p ∈ pop, ValidSol types p) (tape : Tape α) :
    Ensures (L.run n pop tape) fun r => (∀ c ∈ r.1, ValidSol types c) ∧ (∀ p ∈ r.2, ValidSol types p) := by
  induction n generalizing pop tape with
  | zero => exact .ok ⟨nofun, hp⟩
  | succ n ih =>
    refine Ensures.bind (fun r t => generation_valid types L hs hv pop hp tape t r.1 r.2) fun r tape hg => ?_
    exact (ih hg.2 tape).bind fun q _ hq => .ok ⟨List.forall_mem_append.mpr ⟨hg.1, hq.1⟩, hq.2⟩

/-- **every run**: whatever the selection, the survival rule, the number of generations and the draws, every decision vector
ever produced for evaluation and every member of the final population is valid for the declared types -/
theorem run_valid (types : List (TypeD α)) (L : GenLoop α) (hs : L.Sane) (hv : OperValid types L.vary)
    (n : Nat) (pop : List (OSol α)) (hp : ∀ p ∈ pop, ValidSol types p) (tape tape' : Tape α)
    (evaluated popn : List (OSol α)) (h : L.run n pop tape = .ok ((evaluated, popn), tape')) :
    (∀ c ∈ evaluated, ValidSol types c) ∧ (∀ p ∈ popn, ValidSol types p) :=
  run_spec hs hv n hp tape _ _ h

/-- the hypotheses are satisfiable: "take the first two as parents, copy them, keep the first |pop| of offspring ++ population"
is a sane loop with a valid variator -/
example (types : List (TypeD α)) :
    let L : GenLoop α := { select := fun pop tape => .ok ([pop.take 2], tape),
                           vary := { arity := 2, evolve := fun ps tape => .ok (ps, tape) },
                           survive := fun off pop => (off ++ pop).take pop.length }
    L.Sane ∧ OperValid types L.vary := by
  refine ⟨{ select_mem := ?_, survive_mem := ?_ }, ?_⟩
  · intro pop tape groups tape' h g hg p hp
    cases h
    exact List.mem_of_mem_take (List.mem_singleton.mp hg ▸ hp)
  · intro off pop s hs
    exact List.mem_append.mp (List.mem_of_mem_take hs)
  · -- the identity variator
    intro parents tape kids tape' hp h
    cases h
    exact hp
end

end Platypus
