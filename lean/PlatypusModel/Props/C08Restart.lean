import PlatypusModel.Model.Restart
import PlatypusModel.Props.C08Gen

/-!
C08 / C14 for runs with adaptive time continuation (eps-NSGA-II, or any NSGA-II-style algorithm with the extension added):
the restart's injection loop, its evaluations, the population size it leaves and the counter, for **every** stream of
offspring counts (variator and restart mutator), every sequence of restart decisions and archive sizes.
-/
namespace Platypus

theorem newSize_cases (c : RCfg) (a : Nat) :
    (c.ratio * a < c.minPop ∧ newSize c a = c.minPop) ∨
    (c.minPop ≤ c.ratio * a ∧ c.maxPop < c.ratio * a ∧ newSize c a = c.maxPop) ∨
    (c.minPop ≤ c.ratio * a ∧ c.ratio * a ≤ c.maxPop ∧ newSize c a = c.ratio * a) := by
  fun_cases newSize c a with
  | case1 raw h1 => exact .inl ⟨h1, rfl⟩   -- below the range
  | case2 raw h1 h2 => exact .inr (.inl ⟨Nat.le_of_not_lt h1, h2, rfl⟩)   -- above it
  | case3 raw h1 h2 => exact .inr (.inr ⟨Nat.le_of_not_lt h1, Nat.le_of_not_lt h2, rfl⟩)   -- inside

/-- **the new size is clamped**: within `[min_population_size, max_population_size]` whenever that interval is not empty -/
theorem newSize_bounds (c : RCfg) (a : Nat) (h : c.minPop ≤ c.maxPop) : c.minPop ≤ newSize c a ∧ newSize c a ≤ c.maxPop := by
  rcases newSize_cases c a with ⟨_, e⟩ | ⟨_, _, e⟩ | ⟨h1, h2, e⟩
  · rw [e]; exact ⟨Nat.le_refl _, h⟩
  · rw [e]; exact ⟨h, Nat.le_refl _⟩
  · rw [e]; exact ⟨h1, h2⟩

theorem newSize_pos (c : RCfg) (a : Nat) (h1 : 1 ≤ c.minPop) (h2 : 1 ≤ c.maxPop) : 1 ≤ newSize c a := by
  rcases newSize_cases c a with ⟨_, e⟩ | ⟨_, _, e⟩ | ⟨h, _, e⟩
  · exact e ▸ h1
  · exact e ▸ h2
  · exact e ▸ Nat.le_trans h1 h

/-- **what a restart does to the bookkeeping**: the population is the archive plus the injected solutions and
`population_size` is set to its length; it has at least the new size (the injection loop is never stopped by its fuel when the
mutator returns at least one offspring per call); the counter grows by exactly the number of injected solutions; the
variator is not called -/
theorem restart_spec (c : RCfg) (msizes : Nat → Nat) (hs : ∀ i, 1 ≤ msizes i) (a : Nat) (s : RState) :
    (restart c msizes a s).pop = (restart c msizes a s).popSize ∧ a ≤ (restart c msizes a s).pop ∧
    newSize c a ≤ (restart c msizes a s).pop ∧
    (restart c msizes a s).nfe = s.nfe + ((restart c msizes a s).pop - a) ∧ (restart c msizes a s).pos = s.pos ∧
    s.mpos ≤ (restart c msizes a s).mpos := by
  obtain ⟨m, _, hpos, hval, _, _⟩ := offLoopF_spec msizes (newSize c a) (newSize c a) a s.mpos
  exact ⟨rfl, Nat.le_trans (Nat.le_add_right ..) (Nat.le_of_eq hval.symm),
    offLoopF_reaches msizes hs _ _ a s.mpos (Nat.le_add_left ..), rfl, rfl, Nat.le_trans (Nat.le_add_right ..) (Nat.le_of_eq hpos.symm)⟩

/-- an archive that already has the new size (or more) becomes the population as it is: nothing is mutated, nothing evaluated -/
theorem restart_no_injection (c : RCfg) (msizes : Nat → Nat) (a : Nat) (s : RState) (h : newSize c a ≤ a) :
    restart c msizes a s = { s with pop := a, popSize := a } := by
  simp [restart, offLoopF_of_le h]

/-- **overshoot of the injection**: when no mutator call returns more than `b`, fewer than `new_size + b` members -/
theorem restart_overshoot (c : RCfg) (msizes : Nat → Nat) (b : Nat) (hb : ∀ i, msizes i ≤ b) (a : Nat) (s : RState)
    (h : a < newSize c a) : (restart c msizes a s).pop < newSize c a + b :=
  offLoopF_overshoot msizes b hb _ _ a s.mpos h

/-- **with a mutation operator (one offspring per call, the documented requirement)** the population after a restart has
exactly `max(len(archive), new_size)` members and exactly `new_size - len(archive)` evaluations are counted -/
theorem restart_unit (c : RCfg) (msizes : Nat → Nat) (hm : ∀ i, msizes i = 1) (a : Nat) (s : RState) :
    (restart c msizes a s).pop = max a (newSize c a) ∧ (restart c msizes a s).popSize = max a (newSize c a) ∧
    (restart c msizes a s).nfe = s.nfe + (newSize c a - a) := by
  by_cases h : newSize c a ≤ a
  · rw [restart_no_injection c msizes a s h, Nat.max_eq_left h, Nat.sub_eq_zero_of_le h]
    exact ⟨rfl, rfl, rfl⟩
  · have h' := Nat.lt_of_not_le h
    -- at least the new size (the loop is not stopped early) and less than one more (one offspring per call)
    obtain ⟨hsize, _, hge, hnfe, _, _⟩ := restart_spec c msizes (fun i => Nat.le_of_eq (hm i).symm) a s
    have hlt := restart_overshoot c msizes 1 (fun i => Nat.le_of_eq (hm i)) a s h'
    have hp : (restart c msizes a s).pop = newSize c a := Nat.le_antisymm (Nat.le_of_lt_succ hlt) hge
    rw [Nat.max_eq_right (Nat.le_of_lt h')]
    exact ⟨hp, hsize ▸ hp, hp ▸ hnfe⟩

theorem restart_nfe_lt (c : RCfg) (msizes : Nat → Nat) (b : Nat) (hb : ∀ i, msizes i ≤ b) (hms : ∀ i, 1 ≤ msizes i) (a : Nat)
    (s : RState) : (restart c msizes a s).nfe < s.nfe + ((newSize c a - a) + b) := by
  by_cases h : newSize c a ≤ a
  · rw [restart_no_injection c msizes a s h]
    exact Nat.lt_add_of_pos_right (Nat.add_pos_right _ (Nat.le_trans (hms 0) (hb 0)))
  · have h' := Nat.lt_of_not_le h
    obtain ⟨_, harch, _, hnfe, _, _⟩ := restart_spec c msizes hms a s
    -- the counter grew by `pop - a`, and `a ≤ pop < newSize c a + b`
    rw [hnfe, ← Nat.sub_add_comm (Nat.le_of_lt h')]
    exact Nat.add_lt_add_left (Nat.sub_lt_sub_right harch (restart_overshoot c msizes b hb a s h')) _

theorem rGen_progress (sizes : Nat → Nat) (hs : ∀ i, 1 ≤ sizes i) (s : RState) (hp : 1 ≤ s.popSize) :
    s.nfe + 1 ≤ (rGen sizes s).nfe :=
  genStep_progress { style := .whileMerge, popSize := s.popSize, offSize := s.popSize } sizes hs hp hp
    { nfe := s.nfe, pos := s.pos, pop := s.pop }

theorem rGen_pop (sizes : Nat → Nat) (s : RState) (h : s.nfe = 0 ∨ s.pop = s.popSize) : (rGen sizes s).pop = s.popSize :=
  genStep_pop_eq _ sizes _ nofun nofun h

/-- what holds between iterations of the run loop -/
def RInv (s : RState) : Prop := 1 ≤ s.popSize ∧ (s.nfe = 0 ∨ s.pop = s.popSize)

set_option linter.unusedVariables false in -- `hms` is part of the stated contract, not needed by the proof
/-- **every iteration of the run loop counts at least one evaluation, restart or not** -/
theorem rStep_progress (c : RCfg) (sizes msizes : Nat → Nat) (hs : ∀ i, 1 ≤ sizes i) (hms : ∀ i, 1 ≤ msizes i)
    (arch : Option Nat) (s : RState) (hp : 1 ≤ s.popSize) : s.nfe + 1 ≤ (rStep c sizes msizes arch s).nfe := by
  cases arch with
  | none => exact rGen_progress sizes hs s hp
  | some a => exact Nat.le_trans (rGen_progress sizes hs s hp) (Nat.le_add_right ..)

/-- **C14 across restarts**: after every iteration the population has exactly `population_size` members, whatever the
restart did to that attribute, and the attribute stays positive -/
theorem rStep_inv (c : RCfg) (sizes msizes : Nat → Nat) (hms : ∀ i, 1 ≤ msizes i) (h1 : 1 ≤ c.minPop) (h2 : 1 ≤ c.maxPop)
    (arch : Option Nat) (s : RState) (h : RInv s) :
    RInv (rStep c sizes msizes arch s) ∧ (rStep c sizes msizes arch s).pop = (rStep c sizes msizes arch s).popSize := by
  cases arch with
  | none =>
    have g := rGen_pop sizes s h.2
    exact ⟨⟨h.1, Or.inr g⟩, g⟩
  | some a =>
    obtain ⟨hsize, _, hge, _⟩ := restart_spec c msizes hms a (rGen sizes s)
    exact ⟨⟨hsize ▸ Nat.le_trans (newSize_pos c a h1 h2) hge, Or.inr hsize⟩, hsize⟩

/-- **every reachable state**: for every sequence of restart decisions and archive sizes, every stream of offspring counts:
the invariant holds, the counter has grown by at least one per iteration, and after at least one iteration the population
has exactly `population_size` members -/
theorem rRun_reachable (c : RCfg) (sizes msizes : Nat → Nat) (hs : ∀ i, 1 ≤ sizes i) (hms : ∀ i, 1 ≤ msizes i)
    (h1 : 1 ≤ c.minPop) (h2 : 1 ≤ c.maxPop) (l : List (Option Nat)) (s : RState) (h : RInv s) :
    RInv (rRun c sizes msizes l s) ∧ s.nfe + l.length ≤ (rRun c sizes msizes l s).nfe ∧
    (l ≠ [] → (rRun c sizes msizes l s).pop = (rRun c sizes msizes l s).popSize) := by
  induction l generalizing s with
  | nil => exact ⟨h, Nat.le_refl _, fun hne => absurd rfl hne⟩
  | cons a rest ih =>
    obtain ⟨hi, hpop⟩ := rStep_inv c sizes msizes hms h1 h2 a s h
    obtain ⟨i1, i2, i3⟩ := ih (rStep c sizes msizes a s) hi
    refine ⟨i1, Nat.le_trans ?_ i2, fun _ => ?_⟩
    · rw [List.length_cons, Nat.add_comm rest.length, ← Nat.add_assoc]
      exact Nat.add_le_add_right (rStep_progress c sizes msizes hs hms a s h.1) _
    · cases rest with
      | nil => exact hpop
      | cons b r => exact i3 (List.cons_ne_nil b r)

/-- the run loop's iteration on (state, iteration number): the restart decision of iteration `i` is `arch i` -/
def rStepI (c : RCfg) (sizes msizes : Nat → Nat) (arch : Nat → Option Nat) (p : RState × Nat) : RState × Nat :=
  (rStep c sizes msizes (arch p.2) p.1, p.2 + 1)

/-- `rStepI` on the pairs whose state satisfies `RInv` (`rStep_progress` needs `1 ≤ popSize`, so `Progress`, which speaks of
every state, holds only on this subtype) -/
def rStepS (c : RCfg) (sizes msizes : Nat → Nat) (arch : Nat → Option Nat) (hms : ∀ i, 1 ≤ msizes i) (h1 : 1 ≤ c.minPop)
    (h2 : 1 ≤ c.maxPop) (p : {p : RState × Nat // RInv p.1}) : {p : RState × Nat // RInv p.1} :=
  ⟨rStepI c sizes msizes arch p.1, (rStep_inv c sizes msizes hms h1 h2 (arch p.1.2) p.1.1 p.2).1⟩

/-- **Progress is a theorem for runs with restarts too** -/
theorem rStepS_progress (c : RCfg) (sizes msizes : Nat → Nat) (arch : Nat → Option Nat) (hs : ∀ i, 1 ≤ sizes i)
    (hms : ∀ i, 1 ≤ msizes i) (h1 : 1 ≤ c.minPop) (h2 : 1 ≤ c.maxPop) :
    Progress (rStepS c sizes msizes arch hms h1 h2) (fun p => p.1.1.nfe) :=
  fun p => rStep_progress c sizes msizes hs hms (arch p.1.2) p.1.1 p.2.1

/-- **C08 with restarts, without a premise about steps**: `run(N)` terminates within `N` iterations and stops after the
first iteration (step + restart, if any) at which the evaluations counted since the call began reach `N` -/
theorem restart_run_stops_at_first_reach (c : RCfg) (sizes msizes : Nat → Nat) (arch : Nat → Option Nat)
    (hs : ∀ i, 1 ≤ sizes i) (hms : ∀ i, 1 ≤ msizes i) (h1 : 1 ≤ c.minPop) (h2 : 1 ≤ c.maxPop) (N : Nat)
    (s : {p : RState × Nat // RInv p.1}) :
    ∃ k, run (rStepS c sizes msizes arch hms h1 h2) (fun p => p.1.1.nfe) N s
        = ((rStepS c sizes msizes arch hms h1 h2)^[k] s, k) ∧ k ≤ N ∧
      (∀ i, i < k → ((rStepS c sizes msizes arch hms h1 h2)^[i] s).1.1.nfe - s.1.1.nfe < N) ∧
      ((rStepS c sizes msizes arch hms h1 h2)^[k] s).1.1.nfe - s.1.1.nfe ≥ N :=
  run_stops_at_first_reach _ _ (rStepS_progress c sizes msizes arch hs hms h1 h2) N s

/-- **overshoot of an iteration with a restart** (any but the algorithm's first step, `s.nfe ≠ 0`): fewer than
`population_size + a` offspring from the step plus fewer than `new_size - len(archive) + b` injected, when no variator call
returns more than `a` and no mutator call more than `b` -/
theorem rStep_overshoot (c : RCfg) (sizes msizes : Nat → Nat) (hs : ∀ i, 1 ≤ sizes i) (a b : Nat) (ha : ∀ i, sizes i ≤ a)
    (hb : ∀ i, msizes i ≤ b) (hms : ∀ i, 1 ≤ msizes i) (arc : Nat) (s : RState) (hp : 1 ≤ s.popSize) (h0 : s.nfe ≠ 0) :
    (rStep c sizes msizes (some arc) s).nfe < s.nfe + s.popSize + a + ((newSize c arc - arc) + b) := by
  have hg : (rGen sizes s).nfe < s.nfe + s.popSize + a :=
    (genStep_increment_while { style := .whileMerge, popSize := s.popSize, offSize := s.popSize } sizes hs a ha rfl hp
      { nfe := s.nfe, pos := s.pos, pop := s.pop } h0).2
  exact Nat.lt_trans (restart_nfe_lt c msizes b hb hms arc (rGen sizes s)) (Nat.add_lt_add_right hg _)

/-! non-vacuity: the model on a small case (ratio 2, sizes 4..12, a two-offspring variator, a mutation operator, population
6): a restart with 3 archive members: new size 6, 3 injected; with 9: new size 12, 3 injected; with 20: nothing injected,
population 20 -/
example :
    let c : RCfg := { ratio := 2, minPop := 4, maxPop := 12 }
    let s := rRun c (fun _ => 2) (fun _ => 1) [none, some 3, none, some 9, some 20] { nfe := 0, pos := 0, mpos := 0, pop := 0, popSize := 6 }
    s = { nfe := 6 + 6 + 3 + 6 + 6 + 3 + 12, pos := 3 + 3 + 3 + 6, mpos := 6, pop := 20, popSize := 20 } := by
  decide

example : RInv { nfe := 0, pos := 0, mpos := 0, pop := 0, popSize := 6 } := ⟨by decide, Or.inl rfl⟩

end Platypus
