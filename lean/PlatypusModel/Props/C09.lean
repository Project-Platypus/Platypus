import PlatypusModel.Model.Survival
import PlatypusModel.Props.C04
import PlatypusModel.Props.C05
import PlatypusModel.Lemmas.Survival
/-!
# C09 — elitist algorithms never lose their best solutions

The steps the survival selections are made of, each for every input list and every population size; `rank` is an
arbitrary `σ → Nat`, and no theorem here mentions the composed selections `nsga2Survival`, `gde3Survival`.
Archive results for every insertion history; single-objective GA / ES for every total transitive comparator.
-/
namespace Platypus

variable {σ : Type}

/-- Any truncation by a total transitive key that puts smaller rank first keeps the whole front 0 when
it fits, and otherwise keeps only members of front 0 -/
theorem rank_truncate_elitist (rank : σ → Nat) (le : σ → σ → Bool)
    (htotal : ∀ a b, le a b = true ∨ le b a = true)
    (htrans : ∀ a b c, le a b = true → le b c = true → le a c = true)
    (hrank : ∀ a b, rank a < rank b → le b a = false)
    (merged : List σ) (N : Nat) :
    ((merged.filter (fun x => rank x == 0)).length ≤ N →
        ∀ x ∈ merged, rank x = 0 → x ∈ truncateBy le merged N) ∧
    (N < (merged.filter (fun x => rank x == 0)).length →
        ∀ x ∈ truncateBy le merged N, rank x = 0) := by
  have hperm := List.mergeSort_perm merged le
  have hsep : ∀ a b, (rank a == 0) = false → (rank b == 0) = true → ¬ le a b = true := fun a b ha hb =>
    have hlt : rank b < rank a := beq_iff_eq.mp hb ▸ Nat.pos_of_ne_zero (beq_eq_false_iff_ne.mp ha)
    hrank b a hlt ▸ Bool.false_ne_true
  -- front 0 comes first in the sorted list
  have hpre := filter_prefix_of_pairwise (R := fun a b => le a b = true) (fun x => rank x == 0) hsep
    _ (pairwise_mergeSort le htotal htrans merged)
  rw [← (hperm.filter _).length_eq, truncateBy]
  generalize merged.mergeSort le = s at hperm hpre ⊢
  constructor
  · intro hfit x hx hr
    exact (List.prefix_take_iff.mpr ⟨hpre, hfit⟩).subset
      (List.mem_filter.mpr ⟨hperm.mem_iff.mpr hx, beq_iff_eq.mpr hr⟩)
  · intro hlt x hx
    -- two prefixes of the sorted list, the shorter one within the longer
    exact beq_iff_eq.mp (List.mem_filter.mp ((List.prefix_of_prefix_length_le (List.take_prefix N s) hpre
      (Nat.le_trans (List.length_take_le N s) (Nat.le_of_lt hlt))).subset hx)).2

/-- NSGA-II's comparator (rank, then larger crowding distance) meets `hrank` of `rank_truncate_elitist`; total and
transitive: `sortCmp_total`, `sortCmp_trans` -/
theorem sortCmp_rank_first {κ : Type} [LinearOrder κ] [Neg κ] (a b : Ranked κ) (h : a.rank < b.rank) :
    decide (sortCmp b a ≤ 0) = false := by
  rw [sortCmp_of_rank_gt h]
  rfl

theorem gde3_pairwise_subset (cmp : σ → σ → Int) (offspring population : List σ) :
    ∀ x ∈ gde3Pairwise cmp offspring population, x ∈ offspring ++ population := by
  intro x hx
  obtain ⟨q, hq, ⟨_, rfl⟩ | ⟨_, rfl⟩⟩ := mem_gde3.mp hx
  · exact List.mem_append_left _ (List.of_mem_zip hq).1
  · exact List.mem_append_right _ (List.of_mem_zip hq).2

/-- what it drops is dominated by something it keeps -/
theorem gde3_pairwise_dropped_dominated {cmp : σ → σ → Int} (h : StrictCmp cmp)
    (offspring population : List σ) (hl : offspring.length = population.length) (x : σ)
    (hx : x ∈ offspring ++ population) (hdrop : x ∉ gde3Pairwise cmp offspring population) :
    ∃ y ∈ gde3Pairwise cmp offspring population, cmp y x < 0 := by
  rw [mem_gde3] at hdrop
  -- `x` is in some pair `q` and lost the comparison: its partner is kept and dominates it
  rcases List.mem_append.mp hx with hx | hx
  · rw [← List.map_fst_zip (Nat.le_of_eq hl)] at hx
    obtain ⟨q, hq, rfl⟩ := List.mem_map.mp hx
    have hgt : 0 < cmp q.1 q.2 := Int.not_le.mp fun hc => hdrop ⟨q, hq, .inl ⟨hc, rfl⟩⟩
    exact ⟨q.2, mem_gde3.mpr ⟨q, hq, .inr ⟨Int.le_of_lt hgt, rfl⟩⟩, h.antisymm q.1 q.2 ▸ Int.neg_neg_of_pos hgt⟩
  · rw [← List.map_snd_zip (Nat.le_of_eq hl.symm)] at hx
    obtain ⟨q, hq, rfl⟩ := List.mem_map.mp hx
    have hlt : cmp q.1 q.2 < 0 := Int.not_le.mp fun hc => hdrop ⟨q, hq, .inr ⟨hc, rfl⟩⟩
    exact ⟨q.1, mem_gde3.mpr ⟨q, hq, .inl ⟨Int.le_of_lt hlt, rfl⟩⟩, hlt⟩

/-- the pairwise replacement only drops solutions that are dominated: every non-dominated member of
parents ∪ offspring survives it -/
theorem gde3_pairwise_keeps_nondominated {cmp : σ → σ → Int} (h : StrictCmp cmp)
    (offspring population : List σ) (hl : offspring.length = population.length) (x : σ)
    (hx : x ∈ offspring ++ population) (hnd : ∀ y ∈ offspring ++ population, ¬ cmp y x < 0) :
    x ∈ gde3Pairwise cmp offspring population := by
  by_contra hdrop
  obtain ⟨y, hy, hyx⟩ := gde3_pairwise_dropped_dominated h offspring population hl x hx hdrop
  exact hnd y (gde3_pairwise_subset cmp offspring population y hy) hyx

/-- pruning by rank (GDE3, NSGA-III's split): front 0 is kept entirely when it fits, otherwise only
members of front 0 are kept -/
theorem prune_elitist {κ : Type} (rank : σ → Nat) (cd : List σ → List κ) (ge : κ → κ → Bool)
    (hcd : ∀ l, (cd l).length = l.length) (l : List σ) (N : Nat) (hN : 0 < N) :
    ((matchesRank rank l 0).length ≤ N → ∀ x ∈ l, rank x = 0 → x ∈ nondominatedPrune rank cd ge l N) ∧
    (N < (matchesRank rank l 0).length → ∀ x ∈ nondominatedPrune rank cd ge l N, rank x = 0) := by
  obtain ⟨r, hfirst, hfl, hlast⟩ := split_spec rank l N
  obtain ⟨kept, hres, hkept⟩ := prune_subperm rank cd ge hcd l N
  rw [hres]
  generalize nondominatedSplit rank l N = s at *
  obtain ⟨s1, s2⟩ := s
  dsimp only at hfirst hfl hlast hkept ⊢
  cases r with
  | zero =>
    -- no front fitted: front 0 is the cut one
    obtain rfl : s1 = [] := hfirst
    constructor
    · intro hfit x hx hrk
      have hx0 := mem_matchesRank.mpr ⟨hx, hrk⟩
      rcases hlast with ⟨_, h | h⟩ | ⟨h2, hlt⟩
      · exact absurd h (Nat.ne_of_lt hN)
      · rw [h] at hx0; cases hx0
      · rw [h2, List.length_nil, Nat.zero_add] at hlt
        exact absurd hfit (Nat.not_le.mpr hlt)
    · intro _ x hx
      have hx2 := hkept.subset hx
      rcases hlast with ⟨h2, _⟩ | ⟨h2, _⟩ <;> rw [h2] at hx2
      · cases hx2
      · exact (mem_matchesRank.mp hx2).2
  | succ r =>
    -- front 0 fitted
    have hsub : (matchesRank rank l 0).Sublist s1 := by
      rw [hfirst, List.range_succ_eq_map, List.flatMap_cons]
      exact List.sublist_append_left _ _
    exact ⟨fun _ x hx hrk => List.mem_append_left _ (hsub.subset (mem_matchesRank.mpr ⟨hx, hrk⟩)),
      fun hlt => absurd (hsub.length_le.trans hfl) (Nat.not_le.mpr hlt)⟩

set_option linter.unusedVariables false in -- `h` is part of the stated contract, not needed by the proof
/-- raw fitness 0 ⇔ non-dominated, for the specification `spea2Raw`; nothing relates it to what `spea2Fitness`
(the function that is run) computes -/
theorem spea2_raw_zero_iff {cmp : σ → σ → Int} (h : StrictCmp cmp) (sols : List σ) (x : σ) (hx : x ∈ sols) :
    spea2Raw cmp sols x = 0 ↔ ∀ y ∈ sols, ¬ cmp y x < 0 := by
  rw [spea2Raw, List.sum_eq_zero_iff_forall_eq_nat]
  constructor
  · -- a dominator of `x` has positive strength: it dominates `x`
    intro hall y hy hlt
    have h0 := hall _ (List.mem_map.mpr ⟨y, List.mem_filter.mpr ⟨hy, decide_eq_true hlt⟩, rfl⟩)
    rw [spea2Strength, List.length_eq_zero_iff] at h0
    have hxm : x ∈ sols.filter (fun z => cmp y z < 0) := List.mem_filter.mpr ⟨hx, decide_eq_true hlt⟩
    rw [h0] at hxm
    cases hxm
  · intro hnd n hn
    obtain ⟨y, hy, _⟩ := List.mem_map.mp hn
    obtain ⟨hys, hyx⟩ := List.mem_filter.mp hy
    exact absurd (of_decide_eq_true hyx) (hnd y hys)

/-- for every "most crowded" choice `pick` and every predicate `good` (SPEA2's is `fitness < 1`): all good solutions
survive if they fit, otherwise only good ones survive; and exactly `min size n` survive -/
theorem spea2_truncate_elitist (good : σ → Bool) (le : σ → σ → Bool) (pick : List σ → Nat)
    (hpick : ∀ l : List σ, l ≠ [] → pick l < l.length) (sols : List σ) (size : Nat) :
    ((sols.filter good).length ≤ size → ∀ x ∈ sols, good x = true → x ∈ spea2Truncate good le pick sols size) ∧
    (size < (sols.filter good).length → ∀ x ∈ spea2Truncate good le pick sols size, good x = true) ∧
    (spea2Truncate good le pick sols size).length = min size sols.length := by
  have hs := spea2Truncate_shape good le pick hpick sols size
  refine ⟨fun hfit x hx hg => hs.keeps hfit x (List.mem_filter.mpr ⟨hx, hg⟩),
    fun hlt x hx => (List.mem_filter.mp (hs.only (Nat.le_of_lt hlt) x hx)).2, ?_⟩
  have hsum := (List.filter_append_perm good sols).length_eq
  rw [List.length_append] at hsum
  rcases Nat.lt_or_ge (sols.filter good).length size with hlt | hge
  · rw [spea2Truncate, if_pos hlt, List.length_append, List.length_take, List.length_mergeSort,
      ← hsum, ← Nat.add_min_add_left, Nat.add_sub_cancel' (Nat.le_of_lt hlt)]
  · rw [(hs.reduce hge).2, Nat.min_eq_left (Nat.le_trans hge (List.length_filter_le _ _))]

/-- each member of an earlier Pareto-archive result is identical to, or dominated by, a member of every
later result -/
theorem archive_result_monotone {cmp : σ → σ → Int} (h : StrictCmp cmp) (xs ys : List σ) :
    ∀ m ∈ archiveOf cmp xs, m ∈ archiveOf cmp (xs ++ ys) ∨ ∃ m' ∈ archiveOf cmp (xs ++ ys), cmp m' m < 0 := by
  intro m hm
  have hmx := ((mem_archive_iff h xs m).mp hm).1
  exact archive_coverage h (xs ++ ys) m (List.mem_append_left _ hmx)

/-- the same for ε-box archives, in the archive's covering relation -/
theorem eps_archive_result_monotone {α : Type} [Field α] [LinearOrder α] [IsStrictOrderedRing α] [FloorRing α]
    (c : Bool) (dirs : List Bool) (eps : List α) (xs ys : List (Sol α)) (hwf : ∀ x ∈ xs ++ ys, WFe dirs eps x) :
    ∀ m ∈ (epsArchiveOf (epsCmpE c dirs eps) (sameBoxE c dirs eps) xs).1,
      ∃ m' ∈ (epsArchiveOf (epsCmpE c dirs eps) (sameBoxE c dirs eps) (xs ++ ys)).1, Covers c dirs eps m' m := by
  intro m hm
  have hmx := eps_members_offered c dirs eps xs m hm
  exact eps_coverage c dirs eps (xs ++ ys) hwf m (List.mem_append_left _ hmx)

/-- GA: the new best is never worse than the old best -/
theorem ga_best_never_worse (le : σ → σ → Bool)
    (htotal : ∀ a b, le a b = true ∨ le b a = true)
    (htrans : ∀ a b c, le a b = true → le b c = true → le a c = true)
    (offspring : List σ) (fittest : σ) (N : Nat) (hN : 0 < N) :
    ∃ best, (gaSurvival le offspring fittest N).head? = some best ∧ le best fittest = true := by
  unfold gaSurvival
  exact truncate_head_le le htotal htrans _ N hN fittest (by simp)

/-- ES: the new best is never worse than any member of the old population -/
theorem es_best_never_worse (le : σ → σ → Bool)
    (htotal : ∀ a b, le a b = true ∨ le b a = true)
    (htrans : ∀ a b c, le a b = true → le b c = true → le a c = true)
    (offspring population : List σ) (N : Nat) (hN : 0 < N) (old : σ) (hold : old ∈ population) :
    ∃ best, (esSurvival le offspring population N).head? = some best ∧ le best old = true := by
  unfold esSurvival
  exact truncate_head_le le htotal htrans _ N hN old (List.mem_append_right _ hold)

end Platypus
