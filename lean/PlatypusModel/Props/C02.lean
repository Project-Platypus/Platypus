import PlatypusModel.Model.Dominance
import Mathlib.Order.Basic
import Mathlib.Data.Int.Order.Basic
set_option linter.unusedSectionVars false
/-!
# C02 — Pareto dominance is the constraint-first strict partial order on solutions

Stated for every linearly ordered scalar type with a zero and a negation, every number of
objectives, every assignment of directions.  `adj d x` is the value taken in the declared
direction; for the types at hand (`Int`, `ℚ`, `ERat`) `-x < -y ↔ y < x`, so
`adj true x < adj true y ↔ y < x` (`adj_max_lt_iff`).
-/
namespace Platypus

section
variable {α : Type} [Preorder α] [DecidableLT α] [Neg α]
variable {d : Bool} {x y : α} {ds : List Bool} {xs ys : List α} {d1 d2 : Bool}

theorem scan_cons_lt (h : adj d x < adj d y) :
    scan (d :: ds) (x :: xs) (y :: ys) d1 d2 = if d2 then 0 else scan ds xs ys true d2 := by
  rw [scan, if_pos h]

theorem scan_cons_gt (h : adj d y < adj d x) :
    scan (d :: ds) (x :: xs) (y :: ys) d1 d2 = if d1 then 0 else scan ds xs ys d1 true := by
  rw [scan, if_neg (not_lt_of_gt h), if_pos h]

theorem scan_cons_eq (h : adj d x = adj d y) :
    scan (d :: ds) (x :: xs) (y :: ys) d1 d2 = scan ds xs ys d1 d2 := by
  rw [scan, h, if_neg (lt_irrefl _), if_neg (lt_irrefl _)]
end

theorem cvBlock_range {α : Type} [LT α] [DecidableLT α] [BEq α] [OfNat α 0] (c : Bool) (c1 c2 : α) (r : Int)
    (h : cvBlock c c1 c2 = some r) : r = -1 ∨ r = 1 := by
  simp only [cvBlock, ite_eq_iff, Option.some.injEq, reduceCtorEq, and_false, or_false] at h
  omega

-- every theorem below takes all three instances, used or not (hence the linter option above)
variable {α : Type} [LinearOrder α] [Neg α] [Zero α]

def AllLe : List Bool → List α → List α → Prop
  | d :: ds, x :: xs, y :: ys => adj d x ≤ adj d y ∧ AllLe ds xs ys
  | _, _, _ => True

def SomeLt : List Bool → List α → List α → Prop
  | d :: ds, x :: xs, y :: ys => adj d x < adj d y ∨ SomeLt ds xs ys
  | _, _, _ => False

/-- "first is better": the constraint-first strict order of the property statement -/
def Better (constrained : Bool) (dirs : List Bool) (a b : Sol α) : Prop :=
  (constrained = true ∧ a.cv < b.cv) ∨
  ((constrained = false ∨ a.cv = b.cv) ∧ AllLe dirs a.objs b.objs ∧ SomeLt dirs a.objs b.objs)

/-- well-formed evaluated solution: one objective per direction, violation is a sum of absolute values -/
def WF (dirs : List Bool) (a : Sol α) : Prop := a.objs.length = dirs.length ∧ (0 : α) ≤ a.cv

theorem adj_max_lt_iff (hneg : ∀ x y : α, -x < -y ↔ y < x) (x y : α) :
    adj true x < adj true y ↔ y < x := by simp [adj, hneg]

theorem adj_min_lt_iff (x y : α) : adj false x < adj false y ↔ x < y := by simp [adj]

/-! `scan`, `AllLe` and `SomeLt` walk the three lists in lock-step until the shortest ends: `AllLe.induct` is that induction,
and the hypothesis of its second case is the premise of `scan.eq_2`, `AllLe.eq_2`, `SomeLt.eq_2`. -/

theorem scan_swap (ds : List Bool) (xs ys : List α) (d1 d2 : Bool) :
    scan ds ys xs d2 d1 = - scan ds xs ys d1 d2 := by
  induction ds, xs, ys using AllLe.induct generalizing d1 d2 with
  | case1 d ds x xs y ys ih =>
    rcases lt_trichotomy (adj d x) (adj d y) with h | h | h
    · rw [scan_cons_lt h, scan_cons_gt h]
      cases d2
      exacts [ih _ _, rfl]
    · rw [scan_cons_eq h, scan_cons_eq h.symm]
      exact ih _ _
    · rw [scan_cons_gt h, scan_cons_lt h]
      cases d1
      exacts [ih _ _, rfl]
  | case2 ds xs ys h =>
    rw [scan.eq_2 _ _ _ _ _ h, scan.eq_2 _ _ _ _ _ fun d ds x xs y ys e ex ey => h d ds y ys x xs e ey ex]
    cases d1 <;> cases d2 <;> rfl

/-- `paretoCompare` enters with both flags down; the induction needs them general. -/
theorem scan_neg_one_iff (ds : List Bool) (xs ys : List α) (d1 d2 : Bool) :
    scan ds xs ys d1 d2 = -1 ↔ (d2 = false ∧ AllLe ds xs ys ∧ (d1 = true ∨ SomeLt ds xs ys)) := by
  induction ds, xs, ys using AllLe.induct generalizing d1 d2 with
  | case1 d ds x xs y ys ih =>
    rw [AllLe, SomeLt]
    rcases lt_trichotomy (adj d x) (adj d y) with h | h | h
    · rw [scan_cons_lt h]
      cases d2 <;> simp [h, h.le, ih]
    · rw [scan_cons_eq h]
      simp [h, ih]
    · rw [scan_cons_gt h]
      cases d1 <;> simp [not_lt_of_gt h, not_le_of_gt h, ih]
  | case2 ds xs ys h =>
    rw [scan.eq_2 _ _ _ _ _ h, AllLe.eq_2 _ _ _ h, SomeLt.eq_2 _ _ _ h]
    cases d1 <;> cases d2 <;> simp

theorem scan_one_iff (ds : List Bool) (xs ys : List α) (d1 d2 : Bool) :
    scan ds xs ys d1 d2 = 1 ↔ (d1 = false ∧ AllLe ds ys xs ∧ (d2 = true ∨ SomeLt ds ys xs)) := by
  rw [← scan_neg_one_iff, scan_swap, Int.neg_eq_comm, eq_comm]

theorem scan_range (ds : List Bool) (xs ys : List α) (d1 d2 : Bool) :
    scan ds xs ys d1 d2 = -1 ∨ scan ds xs ys d1 d2 = 0 ∨ scan ds xs ys d1 d2 = 1 := by
  fun_induction scan ds xs ys d1 d2 with
  -- both flags up, or the lists end with equal flags
  | case1 | case3 | case6 => exact .inr (.inl rfl)
  | case2 _ _ _ _ _ _ _ _ _ _ ih | case4 _ _ _ _ _ _ _ _ _ _ _ ih | case5 _ _ _ _ _ _ _ _ _ _ ih => exact ih
  -- the lists end with the first flag alone up, with the second alone
  | case7 => exact .inl rfl
  | case8 => exact .inr (.inr rfl)

/-- with violations ≥ 0 the two `== 0` shortcuts of the code decide nothing that `<` would not -/
theorem cvBlock_spec (c : Bool) (c1 c2 : α) (h1 : 0 ≤ c1) (h2 : 0 ≤ c2) :
    cvBlock c c1 c2 =
      if c = true ∧ c1 < c2 then some (-1) else if c = true ∧ c2 < c1 then some 1 else none := by
  unfold cvBlock
  cases c
  · rfl
  rcases lt_trichotomy c1 c2 with h | rfl | h
  · simp [h, h.ne, (h1.trans_lt h).ne']
  · simp
  · simp [h, h.ne', h.not_gt, (h2.trans_lt h).ne']

theorem cvBlock_match {β : Type} (c : Bool) (c1 c2 : α) (h1 : 0 ≤ c1) (h2 : 0 ≤ c2) (f : Int → β) (g : β) :
    (match cvBlock c c1 c2 with | some r => f r | none => g) =
      if c = true ∧ c1 < c2 then f (-1) else if c = true ∧ c2 < c1 then f 1 else g := by
  rw [cvBlock_spec c c1 c2 h1 h2]
  by_cases h : c = true ∧ c1 < c2
  · rw [if_pos h, if_pos h]
  · rw [if_neg h, if_neg h]
    by_cases h' : c = true ∧ c2 < c1
    · rw [if_pos h', if_pos h']
    · rw [if_neg h', if_neg h']

theorem pareto_range (c : Bool) (dirs : List Bool) (a b : Sol α) :
    paretoCompare c dirs a b = -1 ∨ paretoCompare c dirs a b = 0 ∨ paretoCompare c dirs a b = 1 := by
  unfold paretoCompare
  split
  · rename_i r h
    rcases cvBlock_range _ _ _ r h with rfl | rfl
    exacts [.inl rfl, .inr (.inr rfl)]
  · exact scan_range ..

theorem pareto_lt_zero_iff (c : Bool) (dirs : List Bool) (a b : Sol α) :
    paretoCompare c dirs a b < 0 ↔ paretoCompare c dirs a b = -1 := by
  rcases pareto_range c dirs a b with h | h | h <;> rw [h] <;> decide

/-- answers "first is better" exactly when `Better a b` -/
theorem pareto_neg_one_iff (c : Bool) (dirs : List Bool) (a b : Sol α)
    (ha : WF dirs a) (hb : WF dirs b) :
    paretoCompare c dirs a b = -1 ↔ Better c dirs a b := by
  unfold paretoCompare Better
  rw [cvBlock_spec c a.cv b.cv ha.2 hb.2]
  cases c
  · simp [scan_neg_one_iff]
  rcases lt_trichotomy a.cv b.cv with h | h | h
  · simp [h]
  · simp [h, scan_neg_one_iff]
  · simp [h, h.not_gt, h.ne']

/-- swapping the arguments negates the answer -/
theorem pareto_antisymm (c : Bool) (dirs : List Bool) (a b : Sol α)
    (ha : WF dirs a) (hb : WF dirs b) :
    paretoCompare c dirs b a = - paretoCompare c dirs a b := by
  unfold paretoCompare
  rw [cvBlock_spec c a.cv b.cv ha.2 hb.2, cvBlock_spec c b.cv a.cv hb.2 ha.2, scan_swap]
  cases c
  · simp
  rcases lt_trichotomy a.cv b.cv with h | h | h
  · simp [h, h.not_gt]
  · simp [h]
  · simp [h, h.not_gt]

/-- answers "second is better" exactly in the mirrored situation -/
theorem pareto_one_iff (c : Bool) (dirs : List Bool) (a b : Sol α)
    (ha : WF dirs a) (hb : WF dirs b) :
    paretoCompare c dirs a b = 1 ↔ Better c dirs b a := by
  rw [← pareto_neg_one_iff c dirs b a hb ha, pareto_antisymm c dirs a b ha hb, ← Int.neg_inj]

/-- "neither" exactly when neither is better -/
theorem pareto_zero_iff (c : Bool) (dirs : List Bool) (a b : Sol α)
    (ha : WF dirs a) (hb : WF dirs b) :
    paretoCompare c dirs a b = 0 ↔ (¬ Better c dirs a b ∧ ¬ Better c dirs b a) := by
  rw [← pareto_neg_one_iff c dirs a b ha hb, ← pareto_one_iff c dirs a b ha hb]
  rcases pareto_range c dirs a b with h | h | h <;> simp [h]

/-- no solution beats itself -/
theorem pareto_irrefl (c : Bool) (dirs : List Bool) (a : Sol α) (ha : WF dirs a) :
    paretoCompare c dirs a a = 0 := by
  have := pareto_antisymm c dirs a a ha ha
  omega

/-- … nor an identical twin (same objectives, same violation, another object) -/
theorem pareto_twin_zero (c : Bool) (dirs : List Bool) (a b : Sol α) (ha : WF dirs a)
    (ho : b.objs = a.objs) (hc : b.cv = a.cv) : paretoCompare c dirs a b = 0 := by
  unfold paretoCompare
  rw [ho, hc]
  exact pareto_irrefl c dirs a ha

theorem allLe_iff_not_someLt (ds : List Bool) (xs ys : List α) : AllLe ds xs ys ↔ ¬ SomeLt ds ys xs := by
  induction ds, xs, ys using AllLe.induct with
  | case1 d ds x xs y ys ih => rw [AllLe, SomeLt, ih, not_or, not_lt]
  | case2 ds xs ys h =>
    rw [AllLe.eq_2 _ _ _ h, SomeLt.eq_2 _ _ _ fun d ds x xs y ys e ex ey => h d ds y ys x xs e ey ex, not_false_eq_true]

/-- "less violating, or equally violating and related by `R`": transitive when `R` is (`Better` here, `Covers` in C05) -/
theorem cvFirst_trans {β : Type} [Preorder β] {c : Bool} {x y z : β} {R S T : Prop} (hRS : R → S → T) :
    ((c = true ∧ x < y) ∨ ((c = false ∨ x = y) ∧ R)) → ((c = true ∧ y < z) ∨ ((c = false ∨ y = z) ∧ S)) →
      ((c = true ∧ x < z) ∨ ((c = false ∨ x = z) ∧ T)) := by
  rintro (⟨hc, h⟩ | ⟨hc, hr⟩) (⟨hc', h'⟩ | ⟨hc', hs⟩)
  -- less violating twice
  · exact Or.inl ⟨hc, lt_trans h h'⟩
  -- less violating, then by `S`: `c = true`, so between equally violating ones
  · rcases hc' with hc' | hc'
    · rw [hc] at hc'; cases hc'
    · exact Or.inl ⟨hc, hc' ▸ h⟩
  -- by `R`, then less violating: likewise
  · rcases hc with hc | hc
    · rw [hc'] at hc; cases hc
    · exact Or.inl ⟨hc', hc ▸ h'⟩
  -- by `R`, then by `S`
  · exact Or.inr ⟨hc.elim .inl fun e => hc'.imp_right e.trans, hRS hr hs⟩

/-- 'better' is asymmetric, hence irreflexive -/
theorem better_asymm (c : Bool) (dirs : List Bool) (a b : Sol α) :
    Better c dirs a b → ¬ Better c dirs b a := fun h h' =>
  -- there and back would make `a` better than itself
  (cvFirst_trans (T := False) (fun ⟨hle, _⟩ ⟨_, hlt'⟩ => (allLe_iff_not_someLt _ _ _).mp hle hlt') h h').elim
    (fun h => lt_irrefl _ h.2) And.right

theorem better_irrefl (c : Bool) (dirs : List Bool) (a : Sol α) : ¬ Better c dirs a a :=
  fun h => better_asymm c dirs a a h h

/-- the middle list must not end first: a short one would make both hypotheses hold trivially -/
theorem allLe_trans (ds : List Bool) (xs ys zs : List α) (h : ys.length = ds.length) :
    AllLe ds xs ys → AllLe ds ys zs → AllLe ds xs zs := by
  induction ds, xs, zs using AllLe.induct generalizing ys with
  | case1 d ds x xs z zs ih =>
    obtain _ | ⟨y, ys⟩ := ys
    · cases h
    · exact fun ⟨a, b⟩ ⟨c, e⟩ => ⟨le_trans a c, ih ys (Nat.succ.inj h) b e⟩
  | case2 ds xs zs h' => exact fun _ _ => (AllLe.eq_2 _ _ _ h').mpr trivial

theorem someLt_trans_left (ds : List Bool) (xs ys zs : List α) (h : zs.length = ds.length) :
    SomeLt ds xs ys → AllLe ds ys zs → SomeLt ds xs zs := fun hlt hle =>
  -- otherwise `zs` is nowhere worse than `xs`, and then neither is `ys`
  not_imp_comm.mp (allLe_iff_not_someLt ds zs xs).mpr fun hzx =>
    (allLe_iff_not_someLt ds ys xs).mp (allLe_trans ds ys zs xs h hle hzx) hlt

set_option linter.unusedVariables false in -- `ha` is not needed
theorem better_trans (c : Bool) (dirs : List Bool) (a b d : Sol α)
    (ha : WF dirs a) (hb : WF dirs b) (hd : WF dirs d) :
    Better c dirs a b → Better c dirs b d → Better c dirs a d :=
  cvFirst_trans fun ⟨hle, hlt⟩ ⟨hle', _⟩ =>
    ⟨allLe_trans _ _ _ _ hb.1 hle hle', someLt_trans_left _ _ _ _ hd.1 hlt hle'⟩

/-- transitivity of the implementation's answer -/
theorem pareto_trans (c : Bool) (dirs : List Bool) (a b d : Sol α)
    (ha : WF dirs a) (hb : WF dirs b) (hd : WF dirs d)
    (h1 : paretoCompare c dirs a b = -1) (h2 : paretoCompare c dirs b d = -1) :
    paretoCompare c dirs a d = -1 :=
  (pareto_neg_one_iff c dirs a d ha hd).mpr
    (better_trans c dirs a b d ha hb hd ((pareto_neg_one_iff c dirs a b ha hb).mp h1)
      ((pareto_neg_one_iff c dirs b d hb hd).mp h2))

/-- "dominates" as the archives read it: a negative answer -/
theorem pareto_trans_lt (c : Bool) (dirs : List Bool) (a b d : Sol α)
    (ha : WF dirs a) (hb : WF dirs b) (hd : WF dirs d)
    (h1 : paretoCompare c dirs a b < 0) (h2 : paretoCompare c dirs b d < 0) :
    paretoCompare c dirs a d < 0 := by
  rw [pareto_lt_zero_iff] at h1 h2 ⊢
  exact pareto_trans c dirs a b d ha hb hd h1 h2

/-! non-vacuity: mixed directions, a tie, a constrained pair (over `Int`) -/
example : WF [false, true] (⟨0, [1, 5], 0⟩ : Sol Int) ∧ WF [false, true] (⟨1, [1, 3], 0⟩ : Sol Int) ∧
    Better true [false, true] (⟨0, [1, 5], 0⟩ : Sol Int) ⟨1, [1, 3], 0⟩ ∧
    paretoCompare true [false, true] (⟨0, [1, 5], 0⟩ : Sol Int) ⟨1, [1, 3], 0⟩ = -1 ∧
    paretoCompare true [false, true] (⟨0, [9, 0], 2⟩ : Sol Int) ⟨1, [1, 3], 3⟩ = -1 := by
  refine ⟨by simp [WF], by simp [WF], ?_, by decide, by decide⟩
  right; simp [AllLe, SomeLt, adj]

end Platypus
