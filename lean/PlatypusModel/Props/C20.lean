import PlatypusModel.Model.LinAlg
import Mathlib.Algebra.Order.Ring.Defs
import Mathlib.Data.List.Perm.Basic
import Mathlib.Tactic.Ring
/-!
# C20 — linear solver and symmetric eigendecomposition

* `lsolve` (the same definition that runs at `Float` against the implementation) is exact over any
  linearly ordered field: a returned `x` satisfies `A x = b`, and a matrix with a non-trivial kernel is
  reported singular.
* eigendecomposition: no theorem is about the `Float` program `FL.tql2`.  Three are about `findSmall`, its
  scan for a negligible sub-diagonal element written as a function of its own (`FL.tql2` inlines the same
  loop; that the two agree is read off, not proved); the fourth is the algebra of its plane rotation.
  Convergence and accuracy are tied by bit-exact correspondence and residual checks, not proved.
-/
namespace Platypus

/-! No law of arithmetic or order is used in this part, so its facts hold at `Float` as well. -/

theorem swapFront_perm {β : Type} (k : Nat) (l : List β) : (swapFront k l).Perm l := by
  unfold swapFront
  split
  next x t y h => -- `l = x :: t` and `h : (x :: t)[k]? = some y`
    split
    next => rfl
    next hk =>
      obtain ⟨k', rfl⟩ := Nat.exists_eq_succ_of_ne_zero hk
      obtain ⟨hk', rfl⟩ := List.getElem?_eq_some_iff.mp h
      exact (List.set_perm_cons_eraseIdx (l := (x :: t)[k' + 1] :: t) hk' x).trans
        ((List.Perm.swap _ x _).trans (List.getElem_cons_eraseIdx_perm hk'))
  next => rfl

theorem backSub_length {α : Type} [Add α] [Sub α] [Mul α] [Div α] [OfNat α 0] :
    ∀ (i : Nat) (rs : List (Row α)), (backSub i rs).length = rs.length
  | _, [] => rfl
  | i, _ :: rs => congrArg Nat.succ (backSub_length (i + 1) rs)

section
variable {α : Type}

/-- the augmented rows `lsolve` works on -/
def lsolveRows (A : List (List α)) (b : List α) : List (Row α) :=
  (A.zip b).map (fun p => ({ a := p.1, b := p.2 } : Row α))

theorem lsolveRows_mem {A : List (List α)} {b : List α} {r : Row α} (hr : r ∈ lsolveRows A b) : r.a ∈ A := by
  obtain ⟨⟨a, c⟩, hp, rfl⟩ := List.mem_map.mp hr
  exact (List.of_mem_zip hp).1

theorem lsolveRows_length {n : Nat} {A : List (List α)} {b : List α} (hA : A.length = n) (hb : b.length = n) :
    (lsolveRows A b).length = n := by
  simp [lsolveRows, hA, hb]

variable [Sub α] [Mul α] [Div α] [OfNat α 0]

theorem eliminate_length (p : Nat) (piv r : Row α) : (eliminate p piv r).a.length = r.a.length :=
  (List.length_map _).trans List.length_zipIdx

theorem eliminate_drop (p : Nat) (piv r : Row α) (hlen : r.a.length = piv.a.length) :
    (eliminate p piv r).a.drop p =
      List.zipWith (fun v w => v - r.a.getD p 0 / piv.a.getD p 0 * w) (r.a.drop p) (piv.a.drop p) := by
  refine List.ext_getElem ?_ fun i h _ => ?_
  · rw [List.length_drop, eliminate_length, List.length_zipWith, List.length_drop, List.length_drop, hlen,
      Nat.min_self]
  · rw [List.length_drop, eliminate_length, hlen, Nat.lt_sub_iff_add_lt'] at h
    simp only [eliminate, List.getElem_drop, List.getElem_map, List.getElem_zipIdx, List.getElem_zipWith]
    rw [Nat.zero_add, if_pos (Nat.le_add_right p i), List.getD_eq_getElem?_getD (i := p + i),
      List.getElem?_eq_getElem h, Option.getD_some]

variable [Neg α] [LT α] [LE α] [DecidableLT α]

/-- `forwardElim` from column `p` turns `rows` into `tri`: its successful runs, without the fuel -/
inductive Elim (eps : α) : Nat → List (Row α) → List (Row α) → Prop
  | nil (p : Nat) : Elim eps p [] []
  | step {p : Nat} {rows : List (Row α)} {piv : Row α} {others tail : List (Row α)} :
      (piv :: others).Perm rows → ¬ absL (piv.a.getD p 0) ≤ eps →
      Elim eps (p + 1) (others.map (eliminate p piv)) tail → Elim eps p rows (piv :: tail)

theorem Elim.length_eq {eps : α} {p : Nat} {rows tri : List (Row α)} (h : Elim eps p rows tri) :
    tri.length = rows.length := by
  induction h with
  | nil => rfl
  | step hperm _ _ ih => rw [← hperm.length_eq, List.length_cons, ih, List.length_map, List.length_cons]

variable [DecidableLE α]

theorem forwardElim_nil (eps : α) (fuel p : Nat) : forwardElim eps fuel p ([] : List (Row α)) = .ok [] := by
  cases fuel <;> rfl

/-- `lsolve` passes `rows.length` as fuel, one unit per row: `.index` (out of fuel) is not reachable there -/
theorem forwardElim_spec (eps : α) (fuel p : Nat) (rows : List (Row α)) :
    match forwardElim eps fuel p rows with
    | .ok tri => Elim eps p rows tri
    | .error e => rows.length ≤ fuel → e = .singular := by
  fun_induction forwardElim eps fuel p rows with
  | case1 _ p => exact .nil p -- no rows
  | case2 _ rows h => -- rows left and no fuel: `.index`
    exact fun hf => absurd (List.eq_nil_of_length_eq_zero (Nat.le_zero.mp hf)) h
  | case3 _ p r rs hs => -- `swapFront` returned `[]`, yet it permutes `r :: rs`
    exact absurd (hs ▸ swapFront_perm _ (r :: rs)).length_eq (Nat.succ_ne_zero _).symm
  | case4 => exact fun _ => rfl -- the pivot is within `eps`: `.singular`
  | case5 fuel p r rs piv others hs hg ih => -- the pivot passes the guard
    have hperm := hs ▸ swapFront_perm _ (r :: rs)
    revert ih
    cases forwardElim eps fuel (p + 1) (others.map (eliminate p piv)) with
    | ok tail => exact fun ih => .step hperm hg ih
    | error e =>
      refine fun ih hf => ih (Nat.le_of_succ_le_succ ?_)
      rw [List.length_map]
      exact hperm.length_eq.trans_le hf

theorem forwardElim_ok {eps : α} {fuel p : Nat} {rows tri : List (Row α)}
    (h : forwardElim eps fuel p rows = .ok tri) : Elim eps p rows tri := by
  have := forwardElim_spec eps fuel p rows
  rwa [h] at this

variable [Add α]

theorem lsolve_eq (eps : α) (A : List (List α)) (b : List α) :
    lsolve eps A b = (forwardElim eps (lsolveRows A b).length 0 (lsolveRows A b)).map (backSub 0) := by
  unfold lsolve lsolveRows
  dsimp only
  generalize forwardElim eps _ 0 _ = res
  cases res <;> rfl

theorem lsolve_cases (eps : α) (A : List (List α)) (b : List α) :
    lsolve eps A b = .error .singular ∨
      ∃ tri, Elim eps 0 (lsolveRows A b) tri ∧ lsolve eps A b = .ok (backSub 0 tri) := by
  have h := forwardElim_spec eps (lsolveRows A b).length 0 (lsolveRows A b)
  rw [lsolve_eq]
  revert h
  cases forwardElim eps (lsolveRows A b).length 0 (lsolveRows A b) with
  | ok tri => exact fun h => .inr ⟨tri, h, rfl⟩
  | error e => exact fun h => .inl (by rw [h le_rfl]; rfl)

end

section
variable {α : Type} [LinearOrder α] [Neg α] [OfNat α 0]

theorem absL_ne_zero {eps x : α} (heps : 0 ≤ eps) (h : ¬ absL x ≤ eps) : x ≠ 0 := by
  rintro rfl
  exact h (by rwa [absL, if_neg (lt_irrefl 0)])

/-- `findSmall_spec` for any sufficient fuel: the induction moves the start and the fuel together -/
theorem findSmall_aux (tol : α) (e : List α) (fuel l : Nat) : l ≤ e.length → e.length < l + fuel →
    let m := findSmall tol e fuel l
    l ≤ m ∧ m ≤ e.length ∧ (m < e.length → absL (e.getD m 0) ≤ tol) ∧
    ∀ j, l ≤ j → j < m → tol < absL (e.getD j 0) := by
  fun_induction findSmall tol e fuel l with
  | case1 m => exact fun h h' => absurd h h'.not_ge -- no fuel: excluded by the bound on it
  | case2 fuel m hm hsmall => -- `e[m]` is negligible
    exact fun hl _ => ⟨le_rfl, hl, fun _ => hsmall, fun j hmj hjm => absurd hjm hmj.not_gt⟩
  | case3 fuel m hm hbig ih => -- `e[m]` is not negligible
    intro _ hf
    obtain ⟨hle, hlen, hstop, hbefore⟩ := ih hm (hf.trans_eq (Nat.add_right_comm m fuel 1))
    refine ⟨Nat.le_of_succ_le hle, hlen, hstop, fun j hj hj' => ?_⟩
    rcases Nat.eq_or_lt_of_le hj with rfl | hlt
    · exact not_le.mp hbig
    · exact hbefore j hlt hj'
  | case4 fuel m hm => -- `m` is past the end of `e`
    exact fun hl _ => ⟨le_rfl, hl, fun h => absurd h hm, fun j hmj hjm => absurd hjm hmj.not_gt⟩

variable [Sub α] [Mul α] [Div α]

theorem Elim.pivots {eps : α} {p : Nat} {rows tri : List (Row α)} (h : Elim eps p rows tri) :
    ∀ k (_ : k < tri.length), eps < absL ((tri.getD k ⟨[], 0⟩).a.getD (p + k) 0) := by
  induction h with
  | nil => exact fun k hk => absurd hk (Nat.not_lt_zero k)
  | step _ hg _ ih =>
    rintro (_ | k) hk
    · exact not_le.mp hg
    · have := ih k (Nat.lt_of_succ_lt_succ hk)
      rwa [Nat.add_assoc, Nat.add_comm 1 k] at this

end

variable {α : Type} [Field α] [LinearOrder α] [IsStrictOrderedRing α]

def dotL (x y : List α) : α := (List.zipWith (· * ·) x y).sum

def Square (n : Nat) (A : List (List α)) (b : List α) : Prop :=
  A.length = n ∧ b.length = n ∧ ∀ r ∈ A, r.length = n

section
omit [LinearOrder α] [IsStrictOrderedRing α]

@[simp] theorem dotL_nil_left (y : List α) : dotL [] y = 0 := by simp [dotL]
@[simp] theorem dotL_nil_right (x : List α) : dotL x [] = 0 := by simp [dotL]
@[simp] theorem dotL_cons (a b : α) (x y : List α) : dotL (a :: x) (b :: y) = a * b + dotL x y := by
  simp [dotL]

theorem dotL_comm (x y : List α) : dotL x y = dotL y x :=
  congrArg List.sum (List.zipWith_comm_of_comm mul_comm)

/-- through `hf` a caller hands over its pointwise combination (`c·a − s·b`, `v − α·w`, `a + b`) as it is written -/
theorem dotL_zipWith_left (f : α → α → α) (p q : α) (hf : ∀ a b, f a b = p * a + q * b)
    (u v w : List α) (h : u.length = v.length) :
    dotL (List.zipWith f u v) w = p * dotL u w + q * dotL v w := by
  induction u generalizing v w with
  | nil =>
    rw [List.length_eq_zero_iff.mp h.symm]
    simp
  | cons a u ih =>
    cases v with
    | nil => cases h
    | cons b v =>
      cases w with
      | nil => simp
      | cons c w =>
        rw [List.zipWith_cons_cons, dotL_cons, dotL_cons, dotL_cons, hf, ih v w (Nat.succ.inj h)]
        ring

theorem dotL_zipWith_right (f : α → α → α) (p q : α) (hf : ∀ a b, f a b = p * a + q * b)
    (u v w : List α) (h : u.length = v.length) :
      dotL w (List.zipWith f u v) = p * dotL w u + q * dotL w v := by
  rw [dotL_comm, dotL_zipWith_left f p q hf u v w h, dotL_comm u, dotL_comm v]

theorem dotL_drop_cons (a : List α) (p : Nat) (z : α) (zs : List α) :
    dotL (a.drop p) (z :: zs) = a.getD p 0 * z + dotL (a.drop (p + 1)) zs := by
  rw [← List.tail_drop, List.getD_eq_getElem?_getD, ← List.head?_drop]
  cases a.drop p <;> simp

theorem eliminate_dot (p : Nat) (piv r : Row α) (zs : List α) (hlen : r.a.length = piv.a.length) :
    dotL ((eliminate p piv r).a.drop p) zs
      = dotL (r.a.drop p) zs - (r.a.getD p 0 / piv.a.getD p 0) * dotL (piv.a.drop p) zs := by
  rw [eliminate_drop p piv r hlen, dotL_zipWith_left _ 1 (-(r.a.getD p 0 / piv.a.getD p 0))
    (fun _ _ => by ring) _ _ _ (by rw [List.length_drop, List.length_drop, hlen])]
  ring

theorem eliminate_getD (p : Nat) (piv r : Row α) (hlen : r.a.length = piv.a.length)
    (hp : piv.a.getD p 0 ≠ 0) : (eliminate p piv r).a.getD p 0 = 0 := by
  -- entry `p` of a row is its `drop p` dotted with `[1]`
  have h := eliminate_dot p piv r [1] hlen
  simp only [dotL_drop_cons, dotL_nil_right, mul_one, add_zero] at h
  rw [h, div_mul_cancel₀ _ hp, sub_self]

/-- `zs` stands for the unknowns `x[p:]` -/
def Row.Sat (p : Nat) (zs : List α) (r : Row α) : Prop := dotL (r.a.drop p) zs = r.b

theorem Row.sat_pivot {piv : Row α} {p : Nat} (hp : piv.a.getD p 0 ≠ 0) (z : α) (zs : List α) :
    piv.Sat p (z :: zs) ↔ z = (piv.b - dotL (piv.a.drop (p + 1)) zs) / piv.a.getD p 0 := by
  rw [Row.Sat, dotL_drop_cons, eq_div_iff hp, eq_sub_iff_add_eq, mul_comm]

theorem eliminate_sat {p : Nat} {piv r : Row α} {z : α} {zs : List α} (hp : piv.a.getD p 0 ≠ 0)
    (hlen : r.a.length = piv.a.length) (hpiv : piv.Sat p (z :: zs)) :
    (eliminate p piv r).Sat (p + 1) zs ↔ r.Sat p (z :: zs) := by
  have h := eliminate_dot p piv r (z :: zs) hlen
  rw [dotL_drop_cons, eliminate_getD p piv r hlen hp, zero_mul, zero_add, hpiv] at h
  rw [Row.Sat, h]
  exact sub_left_inj

theorem foldl_zip_dot : ∀ (l xs : List α) (s : α),
    (l.zip xs).foldl (fun s p => s + p.1 * p.2) s = s + dotL l xs
  | [], xs, s => by simp
  | _ :: _, [], s => by simp
  | a :: l, x :: xs, s => by
    rw [List.zip_cons_cons, List.foldl_cons, foldl_zip_dot l xs, dotL_cons, add_assoc]

theorem backSub_cons (i : Nat) (r : Row α) (rs : List (Row α)) :
    backSub i (r :: rs) =
      ((r.b - dotL (r.a.drop (i + 1)) (backSub (i + 1) rs)) / r.a.getD i 0) :: backSub (i + 1) rs := by
  simp only [backSub, foldl_zip_dot, zero_add]

theorem zero_of_zipWith_add_eq_left : ∀ (x y : List α), y.length ≤ x.length →
    List.zipWith (· + ·) x y = x → ∀ v ∈ y, v = 0
  | _, [], _, _ => fun _ hv => nomatch hv
  | [], _ :: _, h, _ => nomatch h
  | a :: x, b :: y, hl, h => by
    rw [List.zipWith_cons_cons, List.cons.injEq] at h
    rw [List.forall_mem_cons]
    exact ⟨add_eq_left.mp h.1, zero_of_zipWith_add_eq_left x y (Nat.le_of_succ_le_succ hl) h.2⟩

end

/-! The order enters through the pivot guard alone (`absL_ne_zero`). -/
section
omit [IsStrictOrderedRing α]
variable {eps : α} {p m : Nat} {rows tri : List (Row α)}

/-- The pivot row holds iff `z` is the value `backSub` puts in front; given that, every other row holds iff its
eliminated version holds of `zs` alone, which is the induction hypothesis.  The common row length `m` only
serves `eliminate_sat`. -/
theorem Elim.unique_solution (heps : 0 ≤ eps) (h : Elim eps p rows tri)
    (hlens : ∀ r ∈ rows, r.a.length = m) (zs : List α) :
    zs.length = rows.length ∧ (∀ r ∈ rows, r.Sat p zs) ↔ zs = backSub p tri := by
  induction h generalizing zs with
  | nil p => exact (and_iff_left (List.forall_mem_nil _)).trans List.length_eq_zero_iff
  | @step p rows piv others tail hperm hg _ ih =>
    have hp := absL_ne_zero heps hg
    have hrows {P : Row α → Prop} : (∀ r ∈ rows, P r) ↔ P piv ∧ ∀ r ∈ others, P r := by
      rw [← List.forall_mem_cons]
      exact forall_congr' fun r => by rw [hperm.mem_iff]
    obtain ⟨hm, hlens⟩ := hrows.mp hlens
    rw [← hperm.length_eq, backSub_cons]
    cases zs with
    | nil => exact iff_of_false (fun h => nomatch h.1) nofun
    | cons z zs =>
      have ih := ih (List.forall_mem_map.mpr fun r hr => (eliminate_length p piv r).trans (hlens r hr)) zs
      rw [List.forall_mem_map, List.length_map] at ih
      rw [hrows, List.cons.injEq, List.length_cons, List.length_cons, Nat.succ_inj]
      constructor
      · rintro ⟨hl, hpiv, H⟩
        obtain rfl := ih.mp ⟨hl, fun r hr => (eliminate_sat hp ((hlens r hr).trans hm.symm) hpiv).mpr (H r hr)⟩
        exact ⟨(Row.sat_pivot hp z _).mp hpiv, rfl⟩
      · rintro ⟨hz0, rfl⟩
        have hpiv := (Row.sat_pivot hp z _).mpr hz0
        obtain ⟨hl, H⟩ := ih.mpr rfl
        exact ⟨hl, hpiv, fun r hr => (eliminate_sat hp ((hlens r hr).trans hm.symm) hpiv).mp (H r hr)⟩

theorem Elim.kernel (heps : 0 ≤ eps) (h : Elim eps p rows tri) (hlens : ∀ r ∈ rows, r.a.length = m)
    (ys : List α) (hy : ys.length = rows.length) (hker : ∀ r ∈ rows, dotL (r.a.drop p) ys = 0) :
    ∀ v ∈ ys, v = 0 := by
  obtain ⟨hx, hsol⟩ := (h.unique_solution heps hlens _).mpr rfl
  -- with `x` the solution, `x + ys` is one too, hence equal to `x`
  refine zero_of_zipWith_add_eq_left (backSub p tri) ys (hy.trans hx.symm).le ?_
  refine (h.unique_solution heps hlens _).mp ⟨by rw [List.length_zipWith, hx, hy, Nat.min_self], fun r hr => ?_⟩
  rw [Row.Sat, dotL_zipWith_right _ 1 1 (fun _ _ => by rw [one_mul, one_mul]) _ _ _ (hx.trans hy.symm),
    hsol r hr, hker r hr, one_mul, mul_zero, add_zero]

end

/-! The theorems of C20 are stated over the ordered field whole, whether or not their proofs use the order. -/
set_option linter.unusedSectionVars false

set_option linter.unusedVariables false in -- `hi` only bounds `i`
/-- **exactness**: whatever `lsolve` returns satisfies every equation of the system -/
theorem lsolve_exact (eps : α) (heps : 0 ≤ eps) (n : Nat) (A : List (List α)) (b x : List α)
    (hsq : Square n A b) (h : lsolve eps A b = .ok x) :
    x.length = n ∧ ∀ i (hi : i < n), dotL (A.getD i []) x = b.getD i 0 := by
  rcases lsolve_cases eps A b with h' | ⟨tri, hE, h'⟩
  · cases h'.symm.trans h
  obtain rfl : backSub 0 tri = x := Except.ok.inj (h'.symm.trans h)
  have hn := lsolveRows_length hsq.1 hsq.2.1
  obtain ⟨hx, hsol⟩ := (hE.unique_solution heps (fun r hr => hsq.2.2 _ (lsolveRows_mem hr)) _).mpr rfl
  refine ⟨hx.trans hn, fun i hi => ?_⟩
  obtain ⟨hA, hb, _⟩ := hsq
  have := hsol _ (List.getElem_mem (hn.symm ▸ hi))
  -- row `i` of `lsolveRows A b` is `(A[i], b[i])`
  simpa [Row.Sat, lsolveRows, List.getD_eq_getElem?_getD, hA, hb, hi] using this

/-- a matrix with a non-trivial kernel is never "solved": singularity is signalled -/
theorem lsolve_singular (eps : α) (heps : 0 ≤ eps) (n : Nat) (A : List (List α)) (b : List α)
    (hsq : Square n A b) (y : List α) (hy : y.length = n) (hy0 : ∃ v ∈ y, v ≠ 0)
    (hker : ∀ r ∈ A, dotL r y = 0) : lsolve eps A b = .error .singular := by
  rcases lsolve_cases eps A b with h' | ⟨tri, hE, _⟩
  · exact h'
  · obtain ⟨v, hv, hv0⟩ := hy0
    exact absurd (hE.kernel heps (fun r hr => hsq.2.2 _ (lsolveRows_mem hr)) y
      (by rw [lsolveRows_length hsq.1 hsq.2.1, hy]) (fun r hr => hker _ (lsolveRows_mem hr)) v hv) hv0

set_option linter.unusedVariables false in -- `hk` only bounds `k`
/-- the pivot guard: a returned solution means every pivot met was larger than `eps` in magnitude -/
theorem forwardElim_pivots (eps : α) (fuel p : Nat) (rows tri : List (Row α))
    (h : forwardElim eps fuel p rows = .ok tri) :
    tri.length = rows.length ∧ ∀ k (hk : k < tri.length), eps < absL ((tri.getD k ⟨[], 0⟩).a.getD (p + k) 0) :=
  ⟨(forwardElim_ok h).length_eq, (forwardElim_ok h).pivots⟩

/-- the scan started at `l` returns the first index `m ≥ l` whose sub-diagonal entry is negligible -/
theorem findSmall_spec (tol : α) (e : List α) (l : Nat) (hl : l ≤ e.length) :
    let m := findSmall tol e (e.length - l + 1) l
    l ≤ m ∧ m ≤ e.length ∧ (m < e.length → absL (e.getD m 0) ≤ tol) ∧
    ∀ j, l ≤ j → j < m → tol < absL (e.getD j 0) :=
  findSmall_aux tol e _ l hl (Nat.lt_succ_of_le (Nat.add_sub_cancel' hl).ge)

/-- when the scan from `l` returns `m = l` (where the repaired `tql2` performs no iteration and sets `e[l]` to 0)
the entry was negligible -/
theorem ql_deflation_sound (tol : α) (e : List α) (l : Nat) (hl : l < e.length)
    (hm : findSmall tol e (e.length - l + 1) l = l) : absL (e.getD l 0) ≤ tol := by
  have h := (findSmall_spec tol e l hl.le).2.2.1
  rw [hm] at h
  exact h hl

/-- the originally pinned scan started at index 1 regardless of `l`: it can stop before `l` and make
`tql2` skip the iteration for a row whose sub-diagonal entry is not negligible -/
theorem pinned_scan_unsound :
    ∃ (e : List Int) (l : Nat), l < e.length ∧ ¬ (findSmall (0 : Int) e (e.length + 1) 1 > l) ∧ (0 : Int) < absL (e.getD l 0) :=
  ⟨[5, 0, 7, 0], 2, by decide⟩

set_option linter.unusedVariables false in -- `hlw` is not needed: `dotL` stops at the shorter list
/-- the column update of `tql2`: `(vᵢ, vᵢ₊₁) ↦ (c·vᵢ − s·vᵢ₊₁, s·vᵢ + c·vᵢ₊₁)` with `c² + s² = 1` maps an
orthonormal pair of columns to an orthonormal pair and keeps both orthogonal to every other column
(so `VᵀV = I` is preserved by every such rotation; that `tql2`'s `c = p/r`, `s = e[i]/r` satisfy
`c² + s² = 1` is not shown) -/
theorem rotation_preserves_orthonormal (c s : α) (hcs : c * c + s * s = 1) (u v w : List α)
    (hl : u.length = v.length) (hlw : w.length = u.length)
    (huu : dotL u u = 1) (hvv : dotL v v = 1) (huv : dotL u v = 0) (huw : dotL u w = 0) (hvw : dotL v w = 0) :
    let u' := List.zipWith (fun a b => c * a - s * b) u v
    let v' := List.zipWith (fun a b => s * a + c * b) u v
    dotL u' u' = 1 ∧ dotL v' v' = 1 ∧ dotL u' v' = 0 ∧ dotL u' w = 0 ∧ dotL v' w = 0 := by
  have hf (a b : α) : c * a - s * b = c * a + -s * b := by ring
  have hvu : dotL v u = 0 := dotL_comm v u ▸ huv
  have Lu := fun w => dotL_zipWith_left _ c (-s) hf u v w hl
  have Lv := fun w => dotL_zipWith_left _ s c (fun _ _ => rfl) u v w hl
  have Ru := fun w => dotL_zipWith_right _ c (-s) hf u v w hl
  have Rv := fun w => dotL_zipWith_right _ s c (fun _ _ => rfl) u v w hl
  refine ⟨?_, ?_, ?_, ?_, ?_⟩
  · rw [Lu, Ru, Ru, huu, hvv, huv, hvu]
    exact .trans (by ring) hcs
  · rw [Lv, Rv, Rv, huu, hvv, huv, hvu]
    exact .trans (by ring) hcs
  · rw [Lu, Rv, Rv, huu, hvv, huv, hvu]
    ring
  · rw [Lu, huw, hvw, mul_zero, mul_zero, add_zero]
  · rw [Lv, huw, hvw, mul_zero, mul_zero, add_zero]

end Platypus
