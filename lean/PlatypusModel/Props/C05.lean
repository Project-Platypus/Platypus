import PlatypusModel.Model.Epsilon
import PlatypusModel.Props.C03
import Mathlib.Algebra.Order.Floor.Ring
import Mathlib.Data.Rat.Floor
/-!
# C05 — epsilon-box dominance and the epsilon-box archive

Over any linearly ordered field with a floor (ℚ, ℝ), for well-formed solutions (`WFe`); epsilons per objective or
shared (the last one is reused).  `flE`, `sqE` are the exact-arithmetic instances of the model's parameters `fl`, `sq`;
the `Float` instance of the same definitions is what the check compares with CPython bit for bit.
-/
namespace Platypus

theorem epsNext_subset {α : Type} (l : List α) : epsNext l ⊆ l := by
  fun_cases epsNext l with
  | case1 _ e es => exact List.subset_cons_self _ _
  | case2 l _ => exact List.Subset.refl l

theorem epsNext_ne_nil {α : Type} (e : α) (es : List α) : epsNext (e :: es) ≠ [] := by
  cases es <;> simp [epsNext]

theorem forall_mem_epsNext {α : Type} {P : α → Prop} {l : List α} (h : ∀ x ∈ l, P x) :
    ∀ x ∈ epsNext l, P x :=
  fun x hx => h x (epsNext_subset l hx)

theorem box_induction {α : Type}
    {motive : (ds : List Bool) → (es xs ys : List α) → xs.length = ys.length → Prop}
    (nil_dirs : ∀ es xs ys h, motive [] es xs ys h)
    (nil_eps : ∀ ds xs ys h, motive ds [] xs ys h)
    (nil_objs : ∀ ds es, motive ds es [] [] rfl)
    (cons : ∀ d ds e es x xs y ys h, motive ds (epsNext (e :: es)) xs ys h →
      motive (d :: ds) (e :: es) (x :: xs) (y :: ys) (congrArg (· + 1) h))
    (ds : List Bool) (es xs ys : List α) (h : xs.length = ys.length) : motive ds es xs ys h := by
  induction ds generalizing es xs ys with
  | nil => exact nil_dirs ..
  | cons d ds ih =>
    cases es with
    | nil => exact nil_eps ..
    | cons e es =>
      match xs, ys, h with
      | [], [], _ => exact nil_objs ..
      | x :: xs, y :: ys, h => exact cons _ _ _ _ _ _ _ _ (Nat.succ.inj h) (ih ..)

theorem forall₂_le_trans {β : Type} [Preorder β] (u v w : List β)
    (h : List.Forall₂ (· ≤ ·) u v) (h' : List.Forall₂ (· ≤ ·) v w) : List.Forall₂ (· ≤ ·) u w :=
  List.forall₂_iff_get.mpr ⟨h.length_eq.trans h'.length_eq, fun _ h₁ h₃ =>
    (h.get h₁ (h.length_eq ▸ h₁)).trans (h'.get _ h₃)⟩

section
variable {α : Type} [LT α] [DecidableLT α] [BEq α] [Neg α] [OfNat α 0] [Sub α] [Mul α] [Div α] [Add α]

theorem epsCompare_range_any (fl sq : α → α) (c : Bool) (dirs : List Bool) (eps : List α)
    (a b : Sol α) :
    epsCompare fl sq c dirs eps a b = -1 ∨ epsCompare fl sq c dirs eps a b = 0 ∨
      epsCompare fl sq c dirs eps a b = 1 := by
  unfold epsCompare
  cases h : cvBlock c a.cv b.cv with
  | some r => rcases cvBlock_range c _ _ r h with rfl | rfl <;> simp
  | none =>
    cases boxScan fl dirs eps a.objs b.objs false false with
    | same =>
      dsimp only
      split_ifs <;> simp
    | _ => simp
end

section generic
variable {σ : Type} (cmp : σ → σ → Int) (same : σ → σ → Bool)

theorem epsArchiveAdd_of_reject (st : List σ × Nat) (s : σ)
    (h : (archiveAdd cmp st.1 s).2 = false) : epsArchiveAdd cmp same st s = (st, false) := by
  unfold epsArchiveAdd
  simp only [h, Bool.false_eq_true, if_false]

theorem epsArchiveAdd_of_accept (st : List σ × Nat) (s : σ)
    (h : (archiveAdd cmp st.1 s).2 = true) :
    epsArchiveAdd cmp same st s =
      (((archiveAdd cmp st.1 s).1, if st.1.all (fun m => !same s m) then st.2 + 1 else st.2),
        true) := by
  unfold epsArchiveAdd
  simp only [h, if_true]

theorem epsArchiveAdd_eq (st : List σ × Nat) (s : σ) :
    epsArchiveAdd cmp same st s =
      (((archiveAdd cmp st.1 s).1,
        st.2 + if (archiveAdd cmp st.1 s).2 = true ∧ ∀ m ∈ st.1, same s m = false then 1 else 0),
        (archiveAdd cmp st.1 s).2) := by
  cases h : (archiveAdd cmp st.1 s).2
  · rw [epsArchiveAdd_of_reject _ _ _ _ h, add_reject_unchanged cmp st.1 s h]
    rfl
  · rw [epsArchiveAdd_of_accept _ _ _ _ h]
    simp only [List.all_eq_true, Bool.not_eq_true', true_and]
    split_ifs <;> rfl

theorem epsArchiveOf_append_singleton (pre : List σ) (s : σ) :
    epsArchiveOf cmp same (pre ++ [s]) = (epsArchiveAdd cmp same (epsArchiveOf cmp same pre) s).1 := by
  simp [epsArchiveOf, List.foldl_append]

theorem epsArchiveOf_contents (xs : List σ) :
    (epsArchiveOf cmp same xs).1 = archiveOf cmp xs :=
  (List.foldl_hom Prod.fst fun st s => by rw [epsArchiveAdd_eq]).symm

end generic

-- some theorems below use fewer laws of the field than they are stated over (the four about any comparator none)
set_option linter.unusedSectionVars false
variable {α : Type} [Field α] [LinearOrder α] [IsStrictOrderedRing α] [FloorRing α]

def flE (x : α) : α := ((⌊x⌋ : Int) : α)
-- exact square, for the model's parameter `sq` (`math.pow(d, 2.0)`)
def sqE (x : α) : α := x * x

/-- box index vector of an objective list (direction-adjusted, last epsilon reused) -/
def boxVec : List Bool → List α → List α → List Int
  | d :: ds, e :: es, x :: xs => ⌊adj d x / e⌋ :: boxVec ds (epsNext (e :: es)) xs
  | _, _, _ => []

/-- squared distance to the ideal corner of the own box -/
def cornerDistE : List Bool → List α → List α → α
  | d :: ds, e :: es, x :: xs =>
    (adj d x - (⌊adj d x / e⌋ : Int) * e) * (adj d x - (⌊adj d x / e⌋ : Int) * e)
      + cornerDistE ds (epsNext (e :: es)) xs
  | _, _, _ => 0

/-- well-formed input of the ε-comparator.  With `eps = []` the model's `boxScan` answers `.same` where
Python raises `IndexError` on `self.epsilons[-1]`; with a negative ε the order of the box indices is
reversed, and ε-dominance contradicts Pareto dominance. -/
def WFe (dirs : List Bool) (eps : List α) (a : Sol α) : Prop :=
  a.objs.length = dirs.length ∧ (0 : α) ≤ a.cv ∧ eps ≠ [] ∧ ∀ e ∈ eps, (0 : α) < e

def BoxLe (dirs : List Bool) (eps : List α) (a b : Sol α) : Prop :=
  List.Forall₂ (· ≤ ·) (boxVec dirs eps a.objs) (boxVec dirs eps b.objs)

def Covers (c : Bool) (dirs : List Bool) (eps : List α) (m x : Sol α) : Prop :=
  (c = true ∧ m.cv < x.cv) ∨ ((c = false ∨ m.cv = x.cv) ∧ BoxLe dirs eps m x)

-- `same_box` and `EpsilonDominance.compare` in exact arithmetic; the latter without the Pareto test
-- inside one box (with it: `epsCmpPE` in `Props/C05Transfer.lean`, equal on `WFe` solutions)
abbrev epsCmpE (c : Bool) (dirs : List Bool) (eps : List α) : Sol α → Sol α → Int :=
  epsCompare flE sqE c dirs eps
abbrev sameBoxE (c : Bool) (dirs : List Bool) (eps : List α) : Sol α → Sol α → Bool :=
  sameBox flE c dirs eps

theorem WFe.len_eq {dirs : List Bool} {eps : List α} {a b : Sol α}
    (ha : WFe dirs eps a) (hb : WFe dirs eps b) : a.objs.length = b.objs.length :=
  ha.1.trans hb.1.symm

theorem WFe.cv_nonneg {dirs : List Bool} {eps : List α} {a : Sol α} (ha : WFe dirs eps a) :
    0 ≤ a.cv :=
  ha.2.1

theorem WFe.wf {dirs : List Bool} {eps : List α} {a : Sol α} (ha : WFe dirs eps a) : WF dirs a :=
  ⟨ha.1, ha.cv_nonneg⟩

theorem cornerDist_eq (dirs : List Bool) (eps xs : List α) (acc : α) :
    cornerDist flE sqE dirs eps xs acc = acc + cornerDistE dirs eps xs := by
  fun_induction cornerDist flE sqE dirs eps xs acc with
  -- one more objective
  | case1 d ds e es x xs acc o ih => rw [ih, cornerDistE, add_assoc]; rfl
  -- a list is exhausted
  | case2 ds es xs acc h => rw [cornerDistE.eq_2 _ _ _ h, add_zero]

theorem boxVec_length (ds : List Bool) (es xs ys : List α) (h : xs.length = ys.length) :
    (boxVec ds es xs).length = (boxVec ds es ys).length := by
  induction ds, es, xs, ys, h using box_induction with
  | nil_dirs | nil_eps | nil_objs => simp [boxVec]
  | cons d ds e es x xs y ys h ih => simp only [boxVec, List.length_cons, ih]

/-- the outcome of the flag loop, given whether the first (`l`) / the second (`g`) is no worse everywhere -/
def BoxRel.ofLeGe (l g : Prop) [Decidable l] [Decidable g] : BoxRel :=
  if l then (if g then .same else .first) else (if g then .second else .incomparable)

theorem BoxRel.ofLeGe_eq_same_iff (l g : Prop) [Decidable l] [Decidable g] :
    BoxRel.ofLeGe l g = .same ↔ l ∧ g := by
  by_cases hl : l <;> by_cases hg : g <;> simp [BoxRel.ofLeGe, hl, hg]

/-- one step of the flag loop: `i`, `j` the two box indices, `s` the loop on the remaining objectives -/
theorem boxScan_step {i j : Int} {L G : Prop} [Decidable L] [Decidable G] {s : Bool → Bool → BoxRel}
    (hs : ∀ d1 d2, d1 = false ∨ d2 = false → s d1 d2 = .ofLeGe (d2 = false ∧ L) (d1 = false ∧ G))
    (d1 d2 : Bool) (hd : d1 = false ∨ d2 = false) :
    (if i < j then (if d2 = true then BoxRel.incomparable else s true d2)
      else if j < i then (if d1 = true then BoxRel.incomparable else s d1 true) else s d1 d2) =
      .ofLeGe (d2 = false ∧ i ≤ j ∧ L) (d1 = false ∧ j ≤ i ∧ G) := by
  rcases Int.lt_trichotomy i j with hlt | heq | hgt
  · rw [if_pos hlt]
    cases d2
    · rw [if_neg Bool.false_ne_true, hs true false (.inr rfl)]
      simp only [BoxRel.ofLeGe, Int.le_of_lt hlt, Int.not_le.mpr hlt, true_and, false_and, and_false, reduceCtorEq]
    · rw [if_pos rfl]
      simp only [BoxRel.ofLeGe, Int.not_le.mpr hlt, false_and, and_false, reduceCtorEq, if_false]
  · subst heq
    rw [if_neg (Int.lt_irrefl i), if_neg (Int.lt_irrefl i), hs d1 d2 hd]
    simp only [Int.le_refl, true_and]
  · rw [if_neg (Int.lt_asymm hgt), if_pos hgt]
    cases d1
    · rw [if_neg Bool.false_ne_true, hs false true (.inl rfl)]
      simp only [BoxRel.ofLeGe, Int.le_of_lt hgt, Int.not_le.mpr hgt, true_and, false_and, and_false, reduceCtorEq]
    · rw [if_pos rfl]
      simp only [BoxRel.ofLeGe, Int.not_le.mpr hgt, false_and, and_false, reduceCtorEq, if_false]

/-- the flag loop decides the componentwise order of the two box-index vectors; a raised flag
records that the order has already failed in one direction -/
theorem boxScan_eq (ds : List Bool) (es xs ys : List α) (d1 d2 : Bool)
    (h : xs.length = ys.length) (hd : d1 = false ∨ d2 = false) :
    boxScan flE ds es xs ys d1 d2 =
      .ofLeGe (d2 = false ∧ List.Forall₂ (· ≤ ·) (boxVec ds es xs) (boxVec ds es ys))
        (d1 = false ∧ List.Forall₂ (· ≤ ·) (boxVec ds es ys) (boxVec ds es xs)) := by
  induction ds, es, xs, ys, h using box_induction generalizing d1 d2 with
  | nil_dirs | nil_eps | nil_objs =>
    simp only [boxScan, boxVec, List.Forall₂.nil, and_true]
    revert d1 d2
    decide
  | cons d ds e es x xs y ys h ih =>
    simp only [boxScan, boxVec, boxIdx, flE, Int.cast_lt, List.forall₂_cons]
    exact boxScan_step ih d1 d2 hd

theorem boxLe_of_eq {dirs : List Bool} {eps : List α} {a b : Sol α}
    (h : boxVec dirs eps a.objs = boxVec dirs eps b.objs) : BoxLe dirs eps a b := by
  rw [BoxLe, h]
  exact List.forall₂_refl _

theorem boxVec_eq_iff (dirs : List Bool) (eps : List α) (a b : Sol α) :
    boxVec dirs eps a.objs = boxVec dirs eps b.objs ↔ BoxLe dirs eps a b ∧ BoxLe dirs eps b a :=
  ⟨fun h => ⟨boxLe_of_eq h, boxLe_of_eq h.symm⟩,
    -- `≤` both ways is `=` entry by entry
    fun h => List.forall₂_eq_eq_eq ▸ List.Forall₂.mp (fun _ _ => le_antisymm) h.1 h.2.flip⟩

/-- the answer of the objective part: decided by the boxes, or inside one box by `d` = "the first is
strictly nearer its corner" -/
def BoxRel.verdict (r : BoxRel) (d : Prop) [Decidable d] : Int :=
  match r with
  | .incomparable => 0
  | .first => -1
  | .second => 1
  | .same => if d then -1 else 1

theorem epsCmpE_eq (c : Bool) (dirs : List Bool) (eps : List α) (a b : Sol α)
    (ha : WFe dirs eps a) (hb : WFe dirs eps b) :
    epsCmpE c dirs eps a b =
      if c = true ∧ a.cv < b.cv then -1 else if c = true ∧ b.cv < a.cv then 1
      else (BoxRel.ofLeGe (List.Forall₂ (· ≤ ·) (boxVec dirs eps a.objs) (boxVec dirs eps b.objs))
        (List.Forall₂ (· ≤ ·) (boxVec dirs eps b.objs) (boxVec dirs eps a.objs))).verdict
          (cornerDistE dirs eps a.objs < cornerDistE dirs eps b.objs) := by
  refine (cvBlock_match c a.cv b.cv ha.cv_nonneg hb.cv_nonneg _ _).trans ?_
  rw [boxScan_eq _ _ _ _ _ _ (ha.len_eq hb) (Or.inl rfl), cornerDist_eq, cornerDist_eq]
  simp only [zero_add, true_and]
  rfl

theorem cv_fall_iff {β : Type} [LinearOrder β] (c : Bool) (x y : β) :
    (¬ (c = true ∧ x < y) ∧ ¬ (c = true ∧ y < x)) ↔ (c = false ∨ x = y) := by
  cases c
  · simp
  · simp only [true_and, not_lt, Bool.true_eq_false, false_or]
    exact ⟨fun h => le_antisymm h.2 h.1, fun h => ⟨h.ge, h.le⟩⟩

/-- `X` = the answer of the objective part -/
theorem cv_first_iff {β : Type} [LinearOrder β] {c : Bool} {x y : β} {X r : Int}
    (hr : r = if c = true ∧ x < y then -1 else if c = true ∧ y < x then 1 else X) :
    (r = -1 ↔ ((c = true ∧ x < y) ∨ ((c = false ∨ x = y) ∧ X = -1))) ∧
    (r = 1 ↔ ((c = true ∧ y < x) ∨ ((c = false ∨ x = y) ∧ X = 1))) ∧
      (r = 0 ↔ ((c = false ∨ x = y) ∧ X = 0)) := by
  subst hr
  rw [← cv_fall_iff]
  by_cases hP : c = true ∧ x < y
  · simp [hP, hP.2.not_gt]
  · by_cases hQ : c = true ∧ y < x
    · simp [hQ, hQ.2.not_gt]
    · simp [hP, hQ]

theorem verdict_iff (l g d : Prop) [Decidable l] [Decidable g] [Decidable d] :
    ((BoxRel.ofLeGe l g).verdict d = -1 ↔ ((l ∧ ¬ (l ∧ g)) ∨ ((l ∧ g) ∧ d))) ∧
    ((BoxRel.ofLeGe l g).verdict d = 1 ↔ ((g ∧ ¬ (l ∧ g)) ∨ ((l ∧ g) ∧ ¬ d))) ∧
    ((BoxRel.ofLeGe l g).verdict d = 0 ↔ (¬ l ∧ ¬ g)) := by
  by_cases hl : l <;> by_cases hg : g <;> by_cases hd : d <;>
    simp [BoxRel.ofLeGe, BoxRel.verdict, hl, hg, hd]

/-- "first is better" in the ε-relation -/
theorem epsCompare_neg_one_iff (c : Bool) (dirs : List Bool) (eps : List α) (a b : Sol α)
    (ha : WFe dirs eps a) (hb : WFe dirs eps b) :
    epsCmpE c dirs eps a b = -1 ↔
      ((c = true ∧ a.cv < b.cv) ∨
       ((c = false ∨ a.cv = b.cv) ∧
         ((BoxLe dirs eps a b ∧ boxVec dirs eps a.objs ≠ boxVec dirs eps b.objs) ∨
          (boxVec dirs eps a.objs = boxVec dirs eps b.objs ∧
            cornerDistE dirs eps a.objs < cornerDistE dirs eps b.objs)))) := by
  rw [(cv_first_iff (epsCmpE_eq c dirs eps a b ha hb)).1, (verdict_iff ..).1, ne_eq, boxVec_eq_iff]
  rfl

/-- "second is better"; inside one box a tie in corner distance goes to the second -/
theorem epsCompare_one_iff (c : Bool) (dirs : List Bool) (eps : List α) (a b : Sol α)
    (ha : WFe dirs eps a) (hb : WFe dirs eps b) :
    epsCmpE c dirs eps a b = 1 ↔
      ((c = true ∧ b.cv < a.cv) ∨
       ((c = false ∨ a.cv = b.cv) ∧
         ((BoxLe dirs eps b a ∧ boxVec dirs eps a.objs ≠ boxVec dirs eps b.objs) ∨
          (boxVec dirs eps a.objs = boxVec dirs eps b.objs ∧
            ¬ cornerDistE dirs eps a.objs < cornerDistE dirs eps b.objs)))) := by
  rw [(cv_first_iff (epsCmpE_eq c dirs eps a b ha hb)).2.1, (verdict_iff ..).2.1, ne_eq, boxVec_eq_iff]
  rfl

/-- "neither": equally violating and incomparable boxes; never inside one box -/
theorem epsCompare_zero_iff (c : Bool) (dirs : List Bool) (eps : List α) (a b : Sol α)
    (ha : WFe dirs eps a) (hb : WFe dirs eps b) :
    epsCmpE c dirs eps a b = 0 ↔
      ((c = false ∨ a.cv = b.cv) ∧ ¬ BoxLe dirs eps a b ∧ ¬ BoxLe dirs eps b a) := by
  rw [(cv_first_iff (epsCmpE_eq c dirs eps a b ha hb)).2.2, (verdict_iff ..).2.2]
  rfl

/-- same box ⇔ equally violating (or unconstrained) and all box indices equal -/
theorem sameBox_iff (c : Bool) (dirs : List Bool) (eps : List α) (a b : Sol α)
    (ha : WFe dirs eps a) (hb : WFe dirs eps b) :
    sameBoxE c dirs eps a b = true ↔
      ((c = false ∨ a.cv = b.cv) ∧ boxVec dirs eps a.objs = boxVec dirs eps b.objs) := by
  rw [show sameBoxE c dirs eps a b = _ from cvBlock_match c a.cv b.cv ha.cv_nonneg hb.cv_nonneg _ _,
    ← cv_fall_iff, boxVec_eq_iff, boxScan_eq _ _ _ _ _ _ (ha.len_eq hb) (Or.inl rfl)]
  simp only [Bool.if_false_left, Bool.and_eq_true, Bool.not_eq_true', decide_eq_false_iff_not,
    beq_iff_eq, BoxRel.ofLeGe_eq_same_iff, true_and, and_assoc, BoxLe]

theorem epsCompare_range (c : Bool) (dirs : List Bool) (eps : List α) (a b : Sol α) :
    epsCmpE c dirs eps a b = -1 ∨ epsCmpE c dirs eps a b = 0 ∨ epsCmpE c dirs eps a b = 1 :=
  epsCompare_range_any ..

theorem boxVec_mono (ds : List Bool) (es xs ys : List α) (hlen : xs.length = ys.length)
    (hpos : ∀ e ∈ es, (0 : α) < e) :
    AllLe ds xs ys → List.Forall₂ (· ≤ ·) (boxVec ds es xs) (boxVec ds es ys) := by
  induction ds, es, xs, ys, hlen using box_induction with
  | nil_dirs | nil_eps | nil_objs => intro _; simp [boxVec]
  | cons d ds e es x xs y ys h ih =>
    simp only [AllLe, boxVec, List.forall₂_cons]
    exact fun ⟨h1, h2⟩ =>
      ⟨Int.floor_le_floor (div_le_div_of_nonneg_right h1 (hpos e List.mem_cons_self).le),
        ih (forall_mem_epsNext hpos) h2⟩

/-- with the box index `k` shared, each offset `o - k * e ≥ 0` grows with `o` -/
theorem cornerDistE_mono (ds : List Bool) (es xs ys : List α) (hlen : xs.length = ys.length)
    (hne : es ≠ []) (hpos : ∀ e ∈ es, (0 : α) < e) :
    AllLe ds xs ys → boxVec ds es xs = boxVec ds es ys →
      cornerDistE ds es xs ≤ cornerDistE ds es ys ∧
        (SomeLt ds xs ys → cornerDistE ds es xs < cornerDistE ds es ys) := by
  induction ds, es, xs, ys, hlen using box_induction with
  | nil_dirs | nil_objs => simp [cornerDistE, SomeLt]
  | nil_eps => exact absurd rfl hne
  | cons d ds e es x xs y ys h ih =>
    simp only [AllLe, SomeLt, boxVec, cornerDistE, List.cons.injEq]
    rintro ⟨h1, h2⟩ ⟨hk, hv⟩
    obtain ⟨ihle, ihlt⟩ := ih (epsNext_ne_nil e es) (forall_mem_epsNext hpos) h2 hv
    rw [← hk]
    have h0 := Int.sub_floor_div_mul_nonneg (adj d x) (hpos e List.mem_cons_self)
    have hle := mul_self_le_mul_self h0 (sub_le_sub_right h1 _)
    exact ⟨add_le_add hle ihle, fun h3 => h3.elim
      (fun h3 => add_lt_add_of_lt_of_le (mul_self_lt_mul_self h0 (sub_lt_sub_right h3 _)) ihle)
      fun h3 => add_lt_add_of_le_of_lt hle (ihlt h3)⟩

theorem epsCompare_neg_one_of_better (c : Bool) (dirs : List Bool) (eps : List α) (a b : Sol α)
    (ha : WFe dirs eps a) (hb : WFe dirs eps b) (h : Better c dirs a b) :
    epsCmpE c dirs eps a b = -1 := by
  rw [epsCompare_neg_one_iff c dirs eps a b ha hb]
  have ⟨_, _, hne, hpos⟩ := ha
  refine h.imp_right fun ⟨hc, hle, hlt⟩ => ⟨hc, ?_⟩
  by_cases hv : boxVec dirs eps a.objs = boxVec dirs eps b.objs
  · exact Or.inr ⟨hv, (cornerDistE_mono dirs eps _ _ (ha.len_eq hb) hne hpos hle hv).2 hlt⟩
  · exact Or.inl ⟨boxVec_mono dirs eps _ _ (ha.len_eq hb) hpos hle, hv⟩

/-- the converse fails on a tie inside one box -/
theorem epsCompare_one_of_swap (c : Bool) (dirs : List Bool) (eps : List α) (a b : Sol α)
    (ha : WFe dirs eps a) (hb : WFe dirs eps b) (h : epsCmpE c dirs eps b a = -1) :
    epsCmpE c dirs eps a b = 1 := by
  rw [epsCompare_neg_one_iff c dirs eps b a hb ha] at h
  rw [epsCompare_one_iff c dirs eps a b ha hb]
  exact h.imp_right fun ⟨hc, h⟩ => ⟨hc.imp_right Eq.symm,
    h.imp (And.imp_right Ne.symm) fun ⟨hv, hlt⟩ => ⟨hv.symm, hlt.not_gt⟩⟩

/-- ε-dominance never contradicts Pareto dominance -/
theorem eps_respects_pareto (c : Bool) (dirs : List Bool) (eps : List α) (a b : Sol α)
    (ha : WFe dirs eps a) (hb : WFe dirs eps b) :
    (paretoCompare c dirs a b = -1 → epsCmpE c dirs eps a b = -1) ∧
    (paretoCompare c dirs a b = 1 → epsCmpE c dirs eps a b = 1) :=
  ⟨fun h => epsCompare_neg_one_of_better c dirs eps a b ha hb
      ((pareto_neg_one_iff c dirs a b ha.wf hb.wf).mp h),
    fun h => epsCompare_one_of_swap c dirs eps a b ha hb
      (epsCompare_neg_one_of_better c dirs eps b a hb ha
        ((pareto_one_iff c dirs a b ha.wf hb.wf).mp h))⟩

/-- a member whose box index is no larger is within one epsilon or better in that objective -/
theorem within_one_epsilon (e m x : α) (he : 0 < e) (h : ⌊m / e⌋ ≤ ⌊x / e⌋) : m < x + e := by
  have h1 : m / e < x / e + 1 := (Int.floor_le_iff.mp h).trans_le (add_le_add_left (Int.floor_le _) 1)
  rwa [div_add_one he.ne', div_lt_div_iff_of_pos_right he] at h1

theorem covers_refl (c : Bool) (dirs : List Bool) (eps : List α) (a : Sol α) :
    Covers c dirs eps a a :=
  Or.inr ⟨Or.inr rfl, boxLe_of_eq rfl⟩

theorem covers_trans (c : Bool) (dirs : List Bool) (eps : List α) (a b d : Sol α) :
    Covers c dirs eps a b → Covers c dirs eps b d → Covers c dirs eps a d :=
  cvFirst_trans (forall₂_le_trans _ _ _)

theorem covers_of_neg_one (c : Bool) (dirs : List Bool) (eps : List α) (a b : Sol α)
    (ha : WFe dirs eps a) (hb : WFe dirs eps b) (h : epsCmpE c dirs eps a b < 0) :
    Covers c dirs eps a b :=
  ((epsCompare_neg_one_iff c dirs eps a b ha hb).mp (by have := epsCompare_range c dirs eps a b; omega)).imp_right
    (And.imp_right fun h => h.elim And.left fun h => boxLe_of_eq h.1)

theorem covers_of_one (c : Bool) (dirs : List Bool) (eps : List α) (a b : Sol α)
    (ha : WFe dirs eps a) (hb : WFe dirs eps b) (h : epsCmpE c dirs eps a b > 0) :
    Covers c dirs eps b a :=
  ((epsCompare_one_iff c dirs eps a b ha hb).mp (by have := epsCompare_range c dirs eps a b; omega)).imp_right
    (And.imp (Or.imp_right Eq.symm) fun h => h.elim And.left fun h => boxLe_of_eq h.1.symm)

theorem epsCompare_zero_symm (c : Bool) (dirs : List Bool) (eps : List α) (a b : Sol α)
    (ha : WFe dirs eps a) (hb : WFe dirs eps b) (h : epsCmpE c dirs eps a b = 0) :
    epsCmpE c dirs eps b a = 0 := by
  rw [epsCompare_zero_iff c dirs eps a b ha hb] at h
  rw [epsCompare_zero_iff c dirs eps b a hb ha]
  exact ⟨h.1.imp id Eq.symm, h.2.2, h.2.1⟩

/-- members are pairwise incomparable in the ε-relation: no member's box dominates another's -/
theorem eps_members_incomparable (c : Bool) (dirs : List Bool) (eps : List α) (xs : List (Sol α))
    (hwf : ∀ x ∈ xs, WFe dirs eps x) :
    (epsArchiveOf (epsCmpE c dirs eps) (sameBoxE c dirs eps) xs).1.Pairwise
      (fun m n => epsCmpE c dirs eps m n = 0 ∧ epsCmpE c dirs eps n m = 0) := by
  rw [epsArchiveOf_contents]
  refine (archiveOf_pairwise_zero _ xs).imp_of_mem fun hm hn h => ⟨?_, h⟩
  exact epsCompare_zero_symm c dirs eps _ _ (hwf _ (archiveOf_members_offered _ xs _ hn))
    (hwf _ (archiveOf_members_offered _ xs _ hm)) h

theorem eps_members_offered (c : Bool) (dirs : List Bool) (eps : List α) (xs : List (Sol α)) :
    ∀ m ∈ (epsArchiveOf (epsCmpE c dirs eps) (sameBoxE c dirs eps) xs).1, m ∈ xs := by
  rw [epsArchiveOf_contents]
  exact archiveOf_members_offered _ xs

/-- at most one solution per box -/
theorem eps_one_per_box (c : Bool) (dirs : List Bool) (eps : List α) (xs : List (Sol α))
    (hwf : ∀ x ∈ xs, WFe dirs eps x) :
    (epsArchiveOf (epsCmpE c dirs eps) (sameBoxE c dirs eps) xs).1.Pairwise
      (fun m n => sameBoxE c dirs eps m n = false) := by
  refine (eps_members_incomparable c dirs eps xs hwf).imp_of_mem ?_
  intro m n hm hn h
  have hm' := hwf m (eps_members_offered c dirs eps xs m hm)
  have hn' := hwf n (eps_members_offered c dirs eps xs n hn)
  rw [Bool.eq_false_iff, ne_eq, sameBox_iff c dirs eps m n hm' hn']
  exact fun hsame => ((epsCompare_zero_iff c dirs eps m n hm' hn').mp h.1).2.1 (boxLe_of_eq hsame.2)

/-- every solution ever offered is covered by some member -/
theorem eps_coverage (c : Bool) (dirs : List Bool) (eps : List α) (xs : List (Sol α))
    (hwf : ∀ x ∈ xs, WFe dirs eps x) :
    ∀ x ∈ xs, ∃ m ∈ (epsArchiveOf (epsCmpE c dirs eps) (sameBoxE c dirs eps) xs).1,
      Covers c dirs eps m x := by
  rw [epsArchiveOf_contents]
  exact archiveOf_coverage _ (WFe dirs eps) (Covers c dirs eps) (covers_refl c dirs eps) (covers_trans c dirs eps)
    (covers_of_neg_one c dirs eps) (covers_of_one c dirs eps) xs hwf

/-- an insertion is accepted iff no member answers "member is better" -/
theorem eps_accept_iff (cmp : Sol α → Sol α → Int) (same : Sol α → Sol α → Bool)
    (st : List (Sol α) × Nat) (s : Sol α) :
    (epsArchiveAdd cmp same st s).2 = true ↔ ∀ m ∈ st.1, ¬ cmp s m > 0 := by
  rw [epsArchiveAdd_eq]
  exact archiveAdd_accept_iff cmp st.1 s

/-- a rejected insertion leaves contents and counter untouched -/
theorem eps_reject_unchanged (cmp : Sol α → Sol α → Int) (same : Sol α → Sol α → Bool)
    (st : List (Sol α) × Nat) (s : Sol α) (h : (epsArchiveAdd cmp same st s).2 = false) :
    (epsArchiveAdd cmp same st s).1 = st := by
  rw [epsArchiveAdd_eq] at h
  rw [epsArchiveAdd_of_reject _ _ _ _ h]

/-- the improvement counter grows by one exactly at an accepted insertion that enters a box not
occupied at that moment, and never otherwise -/
theorem improvements_step (cmp : Sol α → Sol α → Int) (same : Sol α → Sol α → Bool)
    (pre : List (Sol α)) (s : Sol α) :
    (epsArchiveOf cmp same (pre ++ [s])).2 =
      (epsArchiveOf cmp same pre).2 +
        (if (epsArchiveAdd cmp same (epsArchiveOf cmp same pre) s).2 = true ∧
            ∀ m ∈ (epsArchiveOf cmp same pre).1, same s m = false then 1 else 0) := by
  rw [epsArchiveOf_append_singleton, epsArchiveAdd_eq]

theorem improvements_monotone (cmp : Sol α → Sol α → Int) (same : Sol α → Sol α → Bool)
    (pre post : List (Sol α)) :
    (epsArchiveOf cmp same pre).2 ≤ (epsArchiveOf cmp same (pre ++ post)).2 := by
  induction post using List.reverseRecOn with
  | nil => simp
  | append_singleton post s ih =>
    rw [← List.append_assoc, improvements_step]
    exact le_trans ih (Nat.le_add_right _ _)

/-! non-vacuity over ℚ: a same-box preference, a well-formed input, and a history with a rejection,
a same-box replacement (no improvement) and an eviction -/
example : epsCmpE (α := ℚ) false [false, true] [1/2] ⟨0, [3/4, 1], 0⟩ ⟨1, [7/8, 1], 0⟩ = -1 := by
  decide +kernel
example : WFe (α := ℚ) [false, true] [1/2] ⟨0, [3/4, 1], 0⟩ := by
  refine ⟨rfl, le_refl _, by simp, ?_⟩
  intro e he; simp at he; subst he; norm_num
example : (epsArchiveOf (epsCmpE (α := ℚ) false [false, false] [1]) (sameBoxE false [false, false] [1])
   [⟨0, [1/2, 5/2], 0⟩, ⟨1, [3/4, 9/4], 0⟩, ⟨2, [1/4, 9/4], 0⟩, ⟨3, [5/2, 1/2], 0⟩, ⟨4, [3, 3], 0⟩]).1.map (·.id) = [2, 3]
   ∧ (epsArchiveOf (epsCmpE (α := ℚ) false [false, false] [1]) (sameBoxE false [false, false] [1])
   [⟨0, [1/2, 5/2], 0⟩, ⟨1, [3/4, 9/4], 0⟩, ⟨2, [1/4, 9/4], 0⟩, ⟨3, [5/2, 1/2], 0⟩, ⟨4, [3, 3], 0⟩]).2 = 2 := by
  decide +kernel

end Platypus
