import PlatypusModel.Model.Directions
/-!
# C02 / C10 / C15 — "all direction assignments": every spelling of a declaration means the same

For every list of directions, every starting content of `problem.directions` of the right length and every
style of value (enum member, legacy int, string), declaring by one slice assignment, by one assignment per
index, or by a broadcast followed by one-slot slices, leaves exactly the declared directions in the array
(model of `Direction.to_direction` + `FixedLengthArray.__setitem__`, compared with the real classes on
random assignment sequences by the C02 check).
-/
namespace Platypus

theorem map_range_eq {β : Type} {n : Nat} {f : Nat → β} {l : List β} (hn : l.length = n)
    (h : ∀ j (hj : j < n), f j = l[j]'(hn ▸ hj)) : (List.range n).map f = l :=
  List.ext_getElem (by rw [List.length_map, List.length_range, hn]) fun j _ hj => by
    rw [List.getElem_map, List.getElem_range]
    exact h j (hn ▸ hj)

theorem toDirAtom_atomOf (style : Nat) (d : Bool) : toDirAtom (atomOf style d) = some d := by
  unfold atomOf
  split <;> cases d <;> rfl

theorem mapM_toDirAtom_map (f : Bool → DAtom) (hf : ∀ d, toDirAtom (f d) = some d) (dirs : List Bool) :
    (dirs.map f).mapM toDirAtom = some dirs := by
  induction dirs with
  | nil => rfl
  | cons d ds ih =>
    simp only [List.map_cons, List.mapM_cons, hf, ih]
    rfl

theorem toDir_seq_atomOf (style : Nat) (dirs : List Bool) :
    toDir (.seq (dirs.map (atomOf style))) = some (.l dirs) := by
  simp only [toDir, mapM_toDirAtom_map _ (toDirAtom_atomOf style), Option.map_some]

theorem toDir_atom_atomOf (style : Nat) (d : Bool) :
    toDir (.atom (atomOf style d)) = some (.d d) := by
  simp only [toDir, toDirAtom_atomOf, Option.map_some]

theorem spellSlice_ok (style : Nat) (dirs : List Bool) (init : List Slot) (h : init.length = dirs.length) :
    dirRun init (spellSlice style dirs) = some (dirs.map Slot.d) := by
  simp only [spellSlice, dirRun, dirSet, toDir_seq_atomOf, h, Nat.min_self, Nat.sub_zero, Nat.zero_le, true_and,
    if_true, Option.bind_some, Option.some.injEq]
  exact map_range_eq (List.length_map _) fun j hj => by simp [hj, List.getD_eq_getElem?_getD]

theorem dirSet_idx (style : Nat) (d : Bool) (arr : List Slot) (i : Nat) (hi : i < arr.length) :
    dirSet arr (.idx i) (.atom (atomOf style d)) = some (arr.set i (.d d)) := by
  simp only [dirSet, toDir_atom_atomOf, hi, if_true]

theorem set_length_append_cons {β : Type} (pre : List β) (s v : β) (rest : List β) :
    (pre ++ s :: rest).set pre.length v = (pre ++ [v]) ++ rest := by simp

theorem dirRun_index_from (style : Nat) (dirs : List Bool) (pre init : List Slot) (h : init.length = dirs.length) :
    dirRun (pre ++ init) ((dirs.zipIdx pre.length).map fun (d, i) => (Sel.idx i, DArg.atom (atomOf style d)))
      = some (pre ++ dirs.map Slot.d) := by
  induction dirs generalizing pre init with
  | nil =>
    obtain rfl := List.eq_nil_of_length_eq_zero h
    rfl
  | cons d ds ih =>
    obtain _ | ⟨s, init'⟩ := init
    · cases h
    have := ih (pre ++ [Slot.d d]) init' (Nat.succ.inj h)
    rw [List.length_append, List.length_singleton] at this
    rw [List.zipIdx_cons, List.map_cons, dirRun, dirSet_idx _ _ _ _ (by simp), Option.bind_some, set_length_append_cons, this]
    simp

theorem spellIndex_ok (style : Nat) (dirs : List Bool) (init : List Slot) (h : init.length = dirs.length) :
    dirRun init (spellIndex style dirs) = some (dirs.map Slot.d) := by
  simpa [spellIndex] using dirRun_index_from style dirs [] init h

theorem dirSet_slice_one (style : Nat) (arr : List Slot) (i : Nat) :
    dirSet arr (.slice i (i + 1)) (.atom (atomOf style true)) = some (arr.set i (.d true)) := by
  -- among the positions of `arr` the slice `i ≤ j < min (i + 1) arr.length` selects `j = i`, as `List.set` does
  simp only [dirSet, toDir_atom_atomOf, Nat.lt_min, Nat.lt_succ_iff, Option.some.injEq]
  exact map_range_eq List.length_set fun j hj => by simp [List.getElem_set, hj, ← Nat.le_antisymm_iff]

theorem dirSet_slice_all (style : Nat) (arr : List Slot) :
    dirSet arr (.slice 0 arr.length) (.atom (atomOf style false)) = some (List.replicate arr.length (.d false)) := by
  simp only [dirSet, toDir_atom_atomOf, Option.some.injEq, Nat.min_self]
  exact map_range_eq List.length_replicate fun j hj => by simp [hj]

/-- the state after the broadcast: `pre` is already final, behind it every slot still reads "minimise" -/
theorem dirRun_oneSlot_from (style : Nat) (dirs : List Bool) (pre : List Slot) :
    dirRun (pre ++ List.replicate dirs.length (Slot.d false))
      (((dirs.zipIdx pre.length).filter (·.1)).map fun (_, i) => (Sel.slice i (i + 1), DArg.atom (atomOf style true)))
      = some (pre ++ dirs.map Slot.d) := by
  induction dirs generalizing pre with
  | nil => rfl
  | cons d ds ih =>
    have := ih (pre ++ [Slot.d d])
    simp only [List.length_append, List.length_cons, List.length_nil, Nat.zero_add] at this
    cases d with
    | false =>
      simp only [List.zipIdx_cons, List.filter_cons, Bool.false_eq_true, if_false, List.length_cons,
        List.replicate_succ, List.map_cons]
      simpa using this
    | true =>
      simp only [List.zipIdx_cons, List.filter_cons, if_true, List.length_cons,
        List.replicate_succ, List.map_cons, dirRun]
      rw [dirSet_slice_one, Option.bind_some, set_length_append_cons, this]
      simp

theorem spellBroadcast_ok (style : Nat) (dirs : List Bool) (init : List Slot) (h : init.length = dirs.length) :
    dirRun init (spellBroadcast style dirs) = some (dirs.map Slot.d) := by
  simp only [spellBroadcast, dirRun]
  rw [← h, dirSet_slice_all, h]
  simp only [Option.bind_some]
  simpa using dirRun_oneSlot_from style dirs []

/-- what readers see: `isMax` of every slot is the declared direction -/
theorem declared_isMax (style : Nat) (dirs : List Bool) (init : List Slot) (h : init.length = dirs.length)
    (spell : List (Sel × DArg)) (hs : spell = spellSlice style dirs ∨ spell = spellIndex style dirs ∨ spell = spellBroadcast style dirs) :
    (dirRun init spell).map (fun d => d.map Slot.isMax) = some dirs := by
  have : dirRun init spell = some (dirs.map Slot.d) := by
    rcases hs with rfl | rfl | rfl
    · exact spellSlice_ok style dirs init h
    · exact spellIndex_ok style dirs init h
    · exact spellBroadcast_ok style dirs init h
  rw [this, Option.map_some, List.map_map]
  exact congrArg some (List.map_id' _)

/-- a sequence of the wrong length assigned to a slice does not declare anything: every selected slot then reads as
"minimise" whatever the sequence said (the broadcast branch stores the sequence itself) -/
theorem mismatched_sequence_reads_minimise (init : List Slot) (bs : List Bool) (hlen : bs.length ≠ init.length) :
    (dirSet init (.slice 0 init.length) (.seq (bs.map DAtom.dir))).map (fun d => d.map Slot.isMax)
      = some (List.replicate init.length false) := by
  simp only [dirSet, toDir, mapM_toDirAtom_map DAtom.dir fun _ => rfl, Option.map_some, Nat.min_self, Nat.sub_zero, hlen, if_false,
    Option.some.injEq, List.map_map]
  exact map_range_eq List.length_replicate fun j hj => by simp [hj, Slot.isMax]

end Platypus
