import PlatypusModel.Lemmas.C06Outcome
import PlatypusModel.Lemmas.C06Tape
import Mathlib.Algebra.Order.Ring.Unbundled.Rat
set_option linter.unusedSectionVars false  -- `huxBits_symmetric` takes `[LinearOrder α]` and uses none of it
/-!
# C06 (real-valued and bit-string operators)

For every linearly ordered scalar type, arithmetic kernel and draw tape: when the operator returns, the offspring are valid
for the declared types, and an offspring that differs from the parent it was copied from is marked unevaluated.  Symmetry
is proved for one variable only (`sbxVar_symmetric`, `huxBits_symmetric`).  `pyClip_pyf` is the NaN clause of `clip` over a
model of IEEE ordering (`PyF`); `PyF.le` is not an `LE` instance, so the operator theorems do not speak about it.  What
uses no fact about the order is stated over the bare classes the model functions take, so that it holds of `Float` too.
-/
namespace Platypus

theorem pyClip_in_bounds {α : Type} [LinearOrder α] (v lo hi : α) (h : lo ≤ hi) :
    lo ≤ pyClip v lo hi ∧ pyClip v lo hi ≤ hi := by
  -- `pyClip v lo hi` is `max(lo, m)` with `m = min(v, hi)`
  have hmax : ∀ m, m ≤ hi → lo ≤ (if lo < m then m else lo) ∧ (if lo < m then m else lo) ≤ hi := by
    intro m hm
    split
    exacts [⟨le_of_lt ‹_›, hm⟩, ⟨le_refl _, h⟩]
  refine hmax _ ?_
  split
  exacts [le_refl _, not_lt.mp ‹_›]

/-- IEEE-like ordering: every comparison with `nan` is false -/
inductive PyF where
  | nan | ninf | fin (q : ℚ) | pinf
  deriving DecidableEq

def PyF.blt : PyF → PyF → Bool
  | .nan, _ => false
  | _, .nan => false
  | .ninf, .ninf => false
  | .ninf, _ => true
  | .fin _, .ninf => false
  | .fin a, .fin b => decide (a < b)
  | .fin _, .pinf => true
  | .pinf, _ => false

instance : LT PyF := ⟨fun a b => PyF.blt a b = true⟩
instance : DecidableLT PyF := fun a b => inferInstanceAs (Decidable (PyF.blt a b = true))
def PyF.le (a b : PyF) : Prop := a = b ∧ a ≠ .nan ∨ a < b

theorem PyF.lt_def (a b : PyF) : (a < b) = (PyF.blt a b = true) := rfl

theorem PyF.ne_nan_of_lt {a b : PyF} (h : a < b) : a ≠ .nan ∧ b ≠ .nan := by
  constructor <;> rintro rfl
  · cases h
  · cases a <;> cases h

theorem PyF.lt_trichotomy {a b : PyF} (ha : a ≠ .nan) (hb : b ≠ .nan) : a < b ∨ a = b ∨ b < a := by
  cases a <;> cases b <;> simp_all [PyF.lt_def, PyF.blt]
  case fin.fin p q => exact _root_.lt_trichotomy p q

/-- even for a NaN (or infinite) raw value the clipped value is never NaN and lies inside non-NaN bounds -/
theorem pyClip_pyf (v lo hi : PyF) (hlo : lo ≠ .nan) (hhi : hi ≠ .nan) (h : PyF.le lo hi) :
    pyClip v lo hi ≠ .nan ∧ PyF.le lo (pyClip v lo hi) ∧ PyF.le (pyClip v lo hi) hi := by
  unfold pyClip
  dsimp only
  split_ifs with h1 h2 h2
  · -- `hi < v`, `lo < hi`: `hi`
    exact ⟨hhi, h, Or.inl ⟨rfl, hhi⟩⟩
  · -- `hi < v`, `¬ lo < hi`: `lo`
    exact ⟨hlo, Or.inl ⟨rfl, hlo⟩, h⟩
  · -- `¬ hi < v`, `lo < v`: `v`, no NaN because it compares
    have hv := (PyF.ne_nan_of_lt h2).2
    refine ⟨hv, Or.inr h2, ?_⟩
    rcases PyF.lt_trichotomy hv hhi with h3 | h3 | h3
    · exact Or.inr h3
    · exact Or.inl ⟨h3, hv⟩
    · exact absurd h3 h1
  · -- `¬ hi < v`, `¬ lo < v` (a NaN `v` ends here): `lo`
    exact ⟨hlo, Or.inl ⟨rfl, hlo⟩, h⟩

theorem huxBits_spec {α : Type} {a b : List Bool} {w : Bool} (tape : Tape α) :
    Ensures (huxBits a b w tape) fun r =>
      r.1.length = a.length ∧ r.2.1.length = b.length ∧ (r.2.2 = false → r.1 = a ∧ r.2.1 = b ∧ w = false) := by
  fun_induction huxBits (α := α) a b w generalizing tape with
  | case1 a as b bs w ih1 ih2 =>
    refine .ite (fun _ => .bind_any fun x tape => .ite (fun _ => ?exchange) fun _ => ?_) fun _ => ?_
    case exchange =>
      exact (ih1 tape).bind fun r tape hr => .ok ⟨congrArg (· + 1) hr.1, congrArg (· + 1) hr.2.1, nofun⟩
    -- equal bits, or the draw says no: both are kept
    all_goals exact (ih2 tape).bind fun r tape hr => .ok ⟨congrArg (· + 1) hr.1, congrArg (· + 1) hr.2.1,
      fun hw => (hr.2.2 hw).imp (congrArg _) (.imp_left (congrArg _))⟩
  | case2 => exact .ok ⟨rfl, rfl, fun hw => ⟨rfl, rfl, hw⟩⟩

section
variable {α : Type} [LE α]
  {types : List (TypeD α)} {v1 v2 : List (Var α)} {w : Bool}

theorem TypesOk.tail {t : TypeD α} {ts : List (TypeD α)} (h : TypesOk (t :: ts)) : TypesOk ts :=
  fun t' ht' => h t' (List.mem_cons_of_mem _ ht')

theorem TypesOk.head_real {lo hi : α} {ts : List (TypeD α)} (h : TypesOk (.real lo hi :: ts)) : lo ≤ hi :=
  h (.real lo hi) List.mem_cons_self

theorem huxVars_outcome (hv1 : ValidVars types v1) (hv2 : ValidVars types v2) (tape : Tape α) :
    Ensures (huxVars types v1 v2 w tape) fun r => Outcome types v1 w r.1 r.2.2 ∧ Outcome types v2 w r.2.1 r.2.2 := by
  fun_induction huxVars types v1 v2 w generalizing tape with
  | case1 n ts a v1 b v2 w ih =>
    obtain ⟨hx1, hvs1⟩ := List.forall₂_cons.mp hv1
    obtain ⟨hx2, hvs2⟩ := List.forall₂_cons.mp hv2
    refine (huxBits_spec tape).bind fun f tape hf => (ih _ hvs1 hvs2 tape).bind fun r tape hr => .ok ⟨?_, ?_⟩
    · exact hr.1.thread (hf.1.trans hx1) fun hw => ⟨congrArg _ (hf.2.2 hw).1, (hf.2.2 hw).2.2⟩
    · exact hr.2.thread (hf.2.1.trans hx2) fun hw => (hf.2.2 hw).2.imp_left (congrArg _)
  | case2 t ts a v1 b v2 w hne ih =>
    obtain ⟨hx1, hvs1⟩ := List.forall₂_cons.mp hv1
    obtain ⟨hx2, hvs2⟩ := List.forall₂_cons.mp hv2
    exact (ih hvs1 hvs2 tape).bind fun r tape hr => .ok ⟨hr.1.pass hx1, hr.2.pass hx2⟩
  | case3 => exact .ok ⟨.refl hv1, .refl hv2⟩

end

section
variable {α : Type} [LE α] [DecidableLE α] [BEq α]
  {zero one p : α} {types : List (TypeD α)} {vars : List (Var α)} {w : Bool}

theorem flipBits_spec {b : List Bool} (tape : Tape α) :
    Ensures (flipBits zero one p b w tape)
      fun r => r.1.length = b.length ∧ (r.2 = false → r.1 = b ∧ w = false) := by
  fun_induction flipBits zero one p b w generalizing tape with
  | case1 w => exact .ok ⟨rfl, fun hw => ⟨rfl, hw⟩⟩
  | case2 b bs w ih1 ih2 =>
    refine .bind_any fun u tape => .ite (fun _ => ?_) fun _ => ?_
    · exact (ih1 tape).bind fun r tape hr => .ok ⟨congrArg (· + 1) hr.1, nofun⟩
    · exact (ih2 tape).bind fun r tape hr =>
        .ok ⟨congrArg (· + 1) hr.1, fun hw => (hr.2 hw).imp_left (congrArg _)⟩

theorem bitFlipVars_outcome (hv : ValidVars types vars) (tape : Tape α) :
    Ensures (bitFlipVars zero one p types vars w tape) fun r => Outcome types vars w r.1 r.2 := by
  fun_induction bitFlipVars zero one p types vars w generalizing tape with
  | case1 n ts b vs w ih =>
    obtain ⟨hx, hvs⟩ := List.forall₂_cons.mp hv
    refine (flipBits_spec tape).bind fun f tape hf => (ih _ hvs tape).bind fun r tape hr => .ok ?_
    exact hr.thread (hf.1.trans hx) fun hw => (hf.2 hw).imp_left (congrArg _)
  | case2 t ts v vs w hne ih =>
    obtain ⟨hx, hvs⟩ := List.forall₂_cons.mp hv
    exact (ih hvs tape).bind fun r tape hr => .ok (hr.pass hx)
  | case3 => exact .ok (.refl hv)

end

section
variable {α : Type} [LT α] [LE α] [DecidableLT α] [DecidableLE α] [BEq α]
  {zero one p : α} {clipIt : Bool} {k : Kernel1 α} {types : List (TypeD α)} {vars : List (Var α)} {ev : Bool}

-- `mutateReals` and `mutateAll` do not go through `Outcome`: they thread the child's `evaluated` flag itself, which may
-- be false from the start and is cleared, not raised, by a write
theorem mutateReals_flag (tape : Tape α) :
    Ensures (mutateReals zero one p clipIt k types vars ev tape)
      fun r => r.2 = false ∨ (r.1 = vars ∧ r.2 = ev) := by
  fun_induction mutateReals zero one p clipIt k types vars ev generalizing tape with
  | case1 lo hi ts x vs ev ih1 ih2 =>
    refine .bind_any fun u tape => .ite (fun _ => ?_) fun _ => ?_
    · refine .bind_any fun raw tape => ?_
      exact .bind_any fun r tape => .ok (.inl rfl)
    · exact (ih2 tape).bind fun r tape hr => .ok (hr.imp_right fun e => ⟨congrArg _ e.1, e.2⟩)
  | case2 ts ev t v vs hne ih =>
    exact (ih tape).bind fun r tape hr => .ok (hr.imp_right fun e => ⟨congrArg _ e.1, e.2⟩)
  | case3 => exact .ok (.inr ⟨rfl, rfl⟩)

end

section
variable {α : Type} [LinearOrder α]

/-- a kernel whose result is already inside the bounds, on every tape (Python's UM draws `uniform(lb, ub)`).  The model's
UM kernel `popUniformU lb ub` hands on whatever value the tape carries, so it meets this only on tapes whose uniform
draws lie in their ranges -/
def KernelInBounds (k : Kernel1 α) : Prop :=
  ∀ x lo hi tape v tape', k x lo hi tape = .ok (v, tape') → lo ≤ v ∧ v ≤ hi

section
variable {zero one p : α} {clipIt : Bool} {k : Kernel1 α} {types : List (TypeD α)} {vars : List (Var α)} {ev : Bool}

theorem mutateReals_valid (hk : clipIt = true ∨ KernelInBounds k) (hty : TypesOk types) (hv : ValidVars types vars)
    (tape : Tape α) :
    Ensures (mutateReals zero one p clipIt k types vars ev tape) fun r => ValidVars types r.1 := by
  fun_induction mutateReals zero one p clipIt k types vars ev generalizing tape with
  | case1 lo hi ts x vs ev ih1 ih2 =>
    obtain ⟨hx, hvs⟩ := List.forall₂_cons.mp hv
    refine .bind_any fun u tape => .ite (fun _ => ?_) fun _ => ?_
    · cases clipIt
      · -- not clipped: the kernel's own promise
        exact Ensures.bind (hk.resolve_left nofun x lo hi tape) fun raw tape hraw =>
          (ih1 hty.tail hvs tape).bind fun r tape hr => .ok (.cons hraw hr)
      · exact .bind_any fun raw tape => (ih1 hty.tail hvs tape).bind fun r tape hr =>
          .ok (.cons (pyClip_in_bounds raw lo hi hty.head_real) hr)
    · exact (ih2 hty.tail hvs tape).bind fun r tape hr => .ok (.cons hx hr)
  | case2 ts ev t v vs hne ih =>
    obtain ⟨hx, hvs⟩ := List.forall₂_cons.mp hv
    exact (ih hty.tail hvs tape).bind fun r tape hr => .ok (.cons hx hr)
  | case3 => exact .ok hv

theorem mutateAll_spec (hty : TypesOk types) (hv : ValidVars types vars) (tape : Tape α) :
    Ensures (mutateAll zero one p k types vars ev tape)
      fun r => ValidVars types r.1 ∧ (r.2 = false ∨ (r.1 = vars ∧ r.2 = ev)) := by
  fun_induction mutateAll zero one p k types vars ev generalizing tape with
  | case1 lo hi ts x vs ev ih1 ih2 =>
    obtain ⟨hx, hvs⟩ := List.forall₂_cons.mp hv
    refine .bind_any fun u tape => .ite (fun _ => ?_) fun _ => ?_
    · refine .bind_any fun raw tape => ?_
      exact (ih1 hty.tail hvs tape).bind fun r tape hr =>
        .ok ⟨.cons (pyClip_in_bounds _ _ _ hty.head_real) hr.1, .inl rfl⟩
    · exact (ih2 hty.tail hvs tape).bind fun r tape hr =>
        .ok ⟨.cons hx hr.1, hr.2.imp_right fun e => ⟨congrArg _ e.1, e.2⟩⟩
  | case2 => exact .ok ⟨hv, .inr ⟨rfl, rfl⟩⟩

end

theorem mutationOp_valid (zero one p : α) (clipIt : Bool) (k : Kernel1 α) (types : List (TypeD α))
    (parent child : OSol α) (tape tape' : Tape α) (hty : TypesOk types) (hp : ValidSol types parent)
    (hk : clipIt = true ∨ KernelInBounds k)
    (h : mutationOp zero one p clipIt k types parent tape = .ok (child, tape')) :
    ValidSol types child := by
  revert child tape'
  exact Ensures.bind (mutateReals_valid hk hty hp tape) fun r _ hr => .ok hr

/-- an offspring that differs from its parent is marked unevaluated -/
theorem mutationOp_flag (zero one p : α) (clipIt : Bool) (k : Kernel1 α) (types : List (TypeD α))
    (parent child : OSol α) (tape tape' : Tape α)
    (h : mutationOp zero one p clipIt k types parent tape = .ok (child, tape')) :
    child.evaluated = false ∨ (child.vars = parent.vars ∧ child.evaluated = parent.evaluated) := by
  revert child tape'
  exact Ensures.bind (mutateReals_flag tape) fun r _ hr => .ok hr

theorem mutateAll_valid (zero one p : α) (k : Kernel1 α) (types : List (TypeD α)) (vars vars' : List (Var α))
    (ev ev' : Bool) (tape tape' : Tape α) (hty : TypesOk types) (hp : ValidVars types vars)
    (h : mutateAll zero one p k types vars ev tape = .ok ((vars', ev'), tape')) :
    ValidVars types vars' ∧ (ev' = false ∨ (vars' = vars ∧ ev' = ev)) :=
  mutateAll_spec hty hp tape _ _ h

theorem sbxVar_in_bounds {zero one eps : α} {gap : α → α → α} {k : KernelSBX α} {x1 x2 lo hi : α}
    (hb : lo ≤ hi) (hx1 : lo ≤ x1 ∧ x1 ≤ hi) (hx2 : lo ≤ x2 ∧ x2 ≤ hi) (tape : Tape α) :
    Ensures (sbxVar zero one eps gap k x1 x2 lo hi tape)
      fun c => (lo ≤ c.1 ∧ c.1 ≤ hi) ∧ (lo ≤ c.2 ∧ c.2 ≤ hi) := by
  refine .ite (fun _ => ?_) fun _ => .ok ⟨hx1, hx2⟩
  -- both values are clipped, whichever way the pair is ordered and exchanged.  The kernel returns `(c1, c2)` and no tape:
  -- in the second `bind_any` `c2` stands where a tape would
  exact .bind_any fun r tape => .bind_any fun c1 c2 => .bind_any fun b tape =>
    .ok ⟨pyClip_in_bounds _ _ _ hb, pyClip_in_bounds _ _ _ hb⟩

theorem sbxVars_outcome {zero one half eps : α} {gap : α → α → α} {k : KernelSBX α} {types : List (TypeD α)}
    {v1 v2 : List (Var α)} (hty : TypesOk types) (hv1 : ValidVars types v1) (hv2 : ValidVars types v2)
    (tape : Tape α) :
    Ensures (sbxVars zero one half eps gap k types v1 v2 tape)
      fun r => Outcome types v1 false r.1 r.2.2 ∧ Outcome types v2 false r.2.1 r.2.2 := by
  fun_induction sbxVars zero one half eps gap k types v1 v2 generalizing tape with
  | case1 lo hi ts x1 v1 x2 v2 ih =>
    obtain ⟨hx1, hvs1⟩ := List.forall₂_cons.mp hv1
    obtain ⟨hx2, hvs2⟩ := List.forall₂_cons.mp hv2
    refine .bind_any fun u tape => .ite (fun _ => ?_) fun _ => ?_
    · refine (sbxVar_in_bounds hty.head_real hx1 hx2 tape).bind fun c tape hc => ?_
      exact (ih hty.tail hvs1 hvs2 tape).bind fun r tape hr =>
        .ok ⟨.write hc.1 hr.1, .write hc.2 hr.2⟩
    · exact (ih hty.tail hvs1 hvs2 tape).bind fun r tape hr => .ok ⟨hr.1.pass hx1, hr.2.pass hx2⟩
  | case2 t ts a v1 b v2 hne ih =>
    obtain ⟨hx1, hvs1⟩ := List.forall₂_cons.mp hv1
    obtain ⟨hx2, hvs2⟩ := List.forall₂_cons.mp hv2
    exact (ih hty.tail hvs1 hvs2 tape).bind fun r tape hr => .ok ⟨hr.1.pass hx1, hr.2.pass hx2⟩
  | case3 => exact .ok ⟨.refl hv1, .refl hv2⟩

theorem sbxOp_valid (zero one half eps p : α) (gap : α → α → α) (k : KernelSBX α) (types : List (TypeD α))
    (p1 p2 : OSol α) (kids : List (OSol α)) (tape tape' : Tape α) (hty : TypesOk types)
    (h1 : ValidSol types p1) (h2 : ValidSol types p2)
    (h : sbxOp zero one half eps p gap k types p1 p2 tape = .ok (kids, tape')) :
    ∃ c1 c2, kids = [c1, c2] ∧ ValidSol types c1 ∧ ValidSol types c2 ∧
      (c1.evaluated = false ∨ (c1.vars = p1.vars ∧ c1.evaluated = p1.evaluated)) ∧
      (c2.evaluated = false ∨ (c2.vars = p2.vars ∧ c2.evaluated = p2.evaluated)) := by
  revert kids tape'
  refine Ensures.bind_any fun u tape => .ite (fun _ => ?_) fun _ => ?_
  · exact (sbxVars_outcome hty h1 h2 tape).bind fun r tape hr =>
      .ok ⟨_, _, rfl, hr.1.child.1, hr.2.child.1, hr.1.child.2, hr.2.child.2⟩
  · exact .ok ⟨_, _, rfl, h1, h2, .inr ⟨rfl, rfl⟩, .inr ⟨rfl, rfl⟩⟩

/-- exchanging the parents: when the variable is recombined the two offspring values are identical
(same order), otherwise the unchanged values come back exchanged — for every kernel and every tape -/
theorem sbxVar_symmetric (zero one eps : α) (gap : α → α → α) (hgap : ∀ a b, gap a b = gap b a)
    (k : KernelSBX α) (x1 x2 lo hi : α) (tape : Tape α) :
    (eps < gap x1 x2 → sbxVar zero one eps gap k x1 x2 lo hi tape = sbxVar zero one eps gap k x2 x1 lo hi tape) ∧
    (¬ eps < gap x1 x2 → sbxVar zero one eps gap k x1 x2 lo hi tape = .ok ((x1, x2), tape) ∧
        sbxVar zero one eps gap k x2 x1 lo hi tape = .ok ((x2, x1), tape)) := by
  have hpair : (if x1 < x2 then (x1, x2) else (x2, x1)) = (if x2 < x1 then (x2, x1) else (x1, x2)) := by
    rcases lt_trichotomy x1 x2 with h | rfl | h
    · rw [if_pos h, if_neg h.not_gt]
    · rfl
    · rw [if_neg h.not_gt, if_pos h]
  unfold sbxVar
  rw [hgap x2 x1]
  refine ⟨fun hg => ?_, fun hg => ?_⟩
  · rw [if_pos hg, if_pos hg, hpair]
  · rw [if_neg hg, if_neg hg]
    exact ⟨rfl, rfl⟩

theorem deVars_outcome {zero one cr : α} {k : α → α → α → α} {jrand j : Nat} {types : List (TypeD α)}
    {v0 v1 v2 v3 : List (Var α)} (hty : TypesOk types) (hv : ValidVars types v0) (tape : Tape α) :
    Ensures (deVars zero one cr k jrand j types v0 v1 v2 v3 tape) fun r => Outcome types v0 false r.1 r.2 := by
  fun_induction deVars zero one cr k jrand j types v0 v1 v2 v3 generalizing tape with
  | case1 j lo hi ts x0 v0 x1 v1 x2 v2 x3 v3 ih =>
    obtain ⟨hx, hvs⟩ := List.forall₂_cons.mp hv
    refine .bind_any fun u tape => (ih hty.tail hvs tape).bind fun r tape hr => .ite (fun _ => ?_) fun _ => ?_
    · exact .ok (.write (pyClip_in_bounds _ _ _ hty.head_real) hr)
    · exact .ok (hr.pass hx)
  | case2 => exact .ok (.refl hv)

theorem deOp_valid (zero one cr : α) (k : α → α → α → α) (types : List (TypeD α)) (p0 p1 p2 p3 : OSol α)
    (kids : List (OSol α)) (tape tape' : Tape α) (hty : TypesOk types) (h0 : ValidSol types p0)
    (h : deOp zero one cr k types p0 p1 p2 p3 tape = .ok (kids, tape')) :
    ∃ c, kids = [c] ∧ ValidSol types c ∧
      (c.evaluated = false ∨ (c.vars = p0.vars ∧ c.evaluated = p0.evaluated)) := by
  revert kids tape'
  refine Ensures.bind_any fun jrand tape => ?_
  exact (deVars_outcome hty h0 tape).bind fun r tape hr => .ok ⟨_, rfl, hr.child⟩

theorem clipVector_valid {types : List (TypeD α)} {raw : List α} (hty : TypesOk types)
    (hreal : ∀ t ∈ types, ∃ lo hi, t = .real lo hi) (hlen : raw.length = types.length) :
    ValidVars types (clipVector types raw) := by
  induction types generalizing raw with
  | nil => exact .nil
  | cons t ts ih =>
    obtain ⟨⟨lo, hi, rfl⟩, hts⟩ := List.forall_mem_cons.mp hreal
    cases raw with
    | nil => cases hlen
    | cons r rs => exact .cons (pyClip_in_bounds _ _ _ hty.head_real) (ih hty.tail hts (Nat.add_right_cancel hlen))

/-- PCX / UNDX / SPX: every variable of the child is a clipped raw value -/
theorem multiParentChild_valid (k : List (List α) → M α (List α)) (types : List (TypeD α))
    (parents : List (List α)) (child : OSol α) (tape tape' : Tape α) (hty : TypesOk types)
    (hreal : ∀ t ∈ types, ∃ lo hi, t = .real lo hi)
    (h : multiParentChild k types parents tape = .ok (child, tape'))
    (hlen : ∀ raw t', k parents tape = .ok (raw, t') → raw.length = types.length) :
    ValidSol types child ∧ child.evaluated = false := by
  revert child tape'
  exact Ensures.bind hlen fun raw _ hraw => .ok ⟨clipVector_valid hty hreal hraw, rfl⟩

theorem bitFlipOp_valid (zero one p : α) (types : List (TypeD α)) (parent child : OSol α)
    (tape tape' : Tape α) (hp : ValidSol types parent)
    (h : bitFlipOp zero one p types parent tape = .ok (child, tape')) :
    ValidSol types child ∧ (child.evaluated = false ∨ (child.vars = parent.vars ∧ child.evaluated = parent.evaluated)) := by
  revert child tape'
  exact Ensures.bind (bitFlipVars_outcome hp tape) fun r _ hr => .ok hr.child

theorem huxOp_valid (zero one p : α) (types : List (TypeD α)) (p1 p2 : OSol α) (kids : List (OSol α))
    (tape tape' : Tape α) (h1 : ValidSol types p1) (h2 : ValidSol types p2)
    (h : huxOp zero one p types p1 p2 tape = .ok (kids, tape')) :
    ∃ c1 c2, kids = [c1, c2] ∧ ValidSol types c1 ∧ ValidSol types c2 ∧
      (c1.evaluated = false ∨ (c1.vars = p1.vars ∧ c1.evaluated = p1.evaluated)) ∧
      (c2.evaluated = false ∨ (c2.vars = p2.vars ∧ c2.evaluated = p2.evaluated)) := by
  revert kids tape'
  refine Ensures.bind_any fun u tape => .ite (fun _ => ?_) fun _ => ?_
  · exact (huxVars_outcome h1 h2 tape).bind fun r tape hr =>
      .ok ⟨_, _, rfl, hr.1.child.1, hr.2.child.1, hr.1.child.2, hr.2.child.2⟩
  · exact .ok ⟨_, _, rfl, h1, h2, .inr ⟨rfl, rfl⟩, .inr ⟨rfl, rfl⟩⟩

/-- HUX on one pair of bit strings is symmetric: exchanging the parents under the same tape exchanges the offspring -/
theorem huxBits_symmetric (a b : List Bool) (w : Bool) (tape : Tape α) :
    (huxBits a b w tape).map (fun r => ((r.1.2.1, r.1.1, r.1.2.2), r.2)) = huxBits b a w tape := by
  fun_induction huxBits (α := α) a b w generalizing tape with
  | case1 a as b bs w ih1 ih2 =>
    rw [huxBits.eq_1, bne_comm]
    refine map_ite (fun _ => map_bind_eq fun x tape => ?_) fun _ => map_bind_map (ih2 _) fun _ => rfl
    cases x
    · exact map_bind_map (ih2 _) fun _ => rfl
    · exact map_bind_map (ih1 _) fun _ => rfl
  | case2 as bs w hne =>
    -- the catch-all equation `huxBits.eq_2` asks that `bs, as` are not two conses: `hne` with the lists exchanged
    rw [huxBits.eq_2]
    · rfl
    · exact fun a as b bs e1 e2 => hne b bs a as e2 e1
end

end Platypus
