import PlatypusModel.Model.GenStep
import PlatypusModel.Props.C08
/-!
# C08 / C14 — the premise "every step counts at least one evaluation", discharged for the generational algorithms

`Progress` (the premise of `Props/C08.lean`) for the step functions of all fifteen shipped algorithm classes (the styles of
`Model/GenStep.lean`; eps-NSGA-II without restarts, MOEA/D without utility-based search) with sizes at least 1, for every
stream of offspring counts in which each call of `variator.evolve` returns at least one offspring; and the population-size
clause of C14 for every reachable state (`gen_reachable`; the GA has `genStep_pop_ga`, PESA2's population is not bounded here).
-/
namespace Platypus

/-- offspring returned by the `m` calls starting with call number `pos` -/
def sumFrom (sizes : Nat → Nat) (pos : Nat) : Nat → Nat
  | 0 => 0
  | m + 1 => sizes pos + sumFrom sizes (pos + 1) m

theorem sumFrom_ge (sizes : Nat → Nat) (hs : ∀ i, 1 ≤ sizes i) (pos m : Nat) : m ≤ sumFrom sizes pos m := by
  induction m generalizing pos with
  | zero => exact Nat.le_refl 0
  | succ m ih => rw [sumFrom, Nat.add_comm m 1]; exact Nat.add_le_add (hs pos) (ih (pos + 1))

theorem sumFrom_le (sizes : Nat → Nat) (a : Nat) (hb : ∀ i, sizes i ≤ a) (pos m : Nat) : sumFrom sizes pos m ≤ m * a := by
  induction m generalizing pos with
  | zero => exact Nat.zero_le _
  | succ m ih => rw [sumFrom, Nat.succ_mul, Nat.add_comm (sizes pos)]; exact Nat.add_le_add (ih (pos + 1)) (hb pos)

theorem offLoopF_of_le {sizes : Nat → Nat} {n have_ : Nat} (h : n ≤ have_) (fuel pos : Nat) :
    offLoopF sizes n fuel have_ pos = (have_, pos) := by
  cases fuel with
  | zero => rfl
  | succ f => exact if_pos h

/-- **what the `while len(offspring) < n` loop computes**: it makes `m` calls, returns all their offspring, and before each
of these calls the wanted number had not been reached; unless the fuel ran out, it has been reached at the end -/
theorem offLoopF_spec (sizes : Nat → Nat) (n fuel have_ pos : Nat) :
    ∃ m, m ≤ fuel ∧ (offLoopF sizes n fuel have_ pos).2 = pos + m ∧
      (offLoopF sizes n fuel have_ pos).1 = have_ + sumFrom sizes pos m ∧
      (∀ j, j < m → have_ + sumFrom sizes pos j < n) ∧
      (m < fuel → n ≤ (offLoopF sizes n fuel have_ pos).1) := by
  fun_induction offLoopF sizes n fuel have_ pos with
  | case1 have_ pos => exact ⟨0, Nat.le_refl 0, rfl, rfl, nofun, nofun⟩   -- no fuel
  | case2 fuel have_ pos h => exact ⟨0, Nat.zero_le _, rfl, rfl, nofun, fun _ => h⟩   -- enough offspring
  | case3 fuel have_ pos h ih =>   -- one more call
    obtain ⟨m, hm, hpos, hval, hbefore, hreach⟩ := ih
    refine ⟨m + 1, Nat.succ_le_succ hm, ?_, ?_, ?_, fun hlt => hreach (Nat.lt_of_succ_lt_succ hlt)⟩
    · rw [hpos, Nat.add_assoc, Nat.add_comm 1 m]
    · rw [hval, sumFrom, Nat.add_assoc]
    · intro j hj
      cases j with
      | zero => exact Nat.lt_of_not_le h
      | succ j => rw [sumFrom, ← Nat.add_assoc]; exact hbefore j (Nat.lt_of_succ_lt_succ hj)

/-- **the fuel is never the reason the loop stops**: when every call returns at least one offspring, `n` calls suffice -/
theorem offLoopF_reaches (sizes : Nat → Nat) (hs : ∀ i, 1 ≤ sizes i) (n fuel have_ pos : Nat) (hf : n ≤ have_ + fuel) :
    n ≤ (offLoopF sizes n fuel have_ pos).1 := by
  obtain ⟨m, hm, _, hval, _, hreach⟩ := offLoopF_spec sizes n fuel have_ pos
  rcases Nat.lt_or_eq_of_le hm with hlt | rfl
  · exact hreach hlt
  · rw [hval]; exact Nat.le_trans hf (Nat.add_le_add_left (sumFrom_ge sizes hs pos m) have_)

/-- **overshoot of one step**: if no call returns more than `a` offspring, the loop started below `n` returns fewer than `n + a` -/
theorem offLoopF_overshoot (sizes : Nat → Nat) (a : Nat) (hb : ∀ i, sizes i ≤ a) (n fuel have_ pos : Nat) (h0 : have_ < n) :
    (offLoopF sizes n fuel have_ pos).1 < n + a := by
  induction fuel generalizing have_ pos with
  | zero => exact Nat.lt_add_right a h0
  | succ fuel ih =>
    rw [offLoopF, if_neg (Nat.not_le_of_lt h0)]
    by_cases h : n ≤ have_ + sizes pos
    · rw [offLoopF_of_le h]; exact Nat.add_lt_add_of_lt_of_le h0 (hb pos)
    · exact ih _ _ (Nat.lt_of_not_le h)

theorem callsF_spec (sizes : Nat → Nat) (m have_ pos : Nat) :
    callsF sizes m have_ pos = (have_ + sumFrom sizes pos m, pos + m) := by
  induction m generalizing have_ pos with
  | zero => rfl
  | succ m ih => rw [callsF, ih, sumFrom, Nat.add_assoc, Nat.add_assoc, Nat.add_comm 1 m]

theorem callsF_ge (sizes : Nat → Nat) (hs : ∀ i, 1 ≤ sizes i) (m pos : Nat) : m ≤ (callsF sizes m 0 pos).1 := by
  rw [callsF_spec, Nat.zero_add]; exact sumFrom_ge sizes hs pos m

/-- the offspring of one `iterate` are at least the number the style asks for: the population size, the offspring size or 1 -/
theorem genOffspring_ge (c : GenCfg) (sizes : Nat → Nat) (hs : ∀ i, 1 ≤ sizes i) (pos : Nat) :
    (match c.style with
      | .whileMerge => c.popSize
      | .whileFittest => c.offSize
      | .callsMerge => c.offSize
      | .oneCallKeep => 1
      | .popCallsMerge => c.popSize
      | .popCallsKeep => c.popSize
      | .whileReplace => c.popSize
      | .oneCallOne => 1
      | .fixed => c.popSize) ≤ (genOffspring c sizes pos).1 := by
  unfold genOffspring
  cases c.style
  case whileMerge | whileFittest | whileReplace => exact offLoopF_reaches sizes hs _ _ 0 pos (Nat.le_add_left ..)
  case callsMerge | oneCallKeep | popCallsMerge | popCallsKeep => exact callsF_ge sizes hs _ pos
  case oneCallOne | fixed => exact Nat.le_refl _

/-- **the evaluation counter strictly increases with every step** of a generational algorithm, for every stream of offspring
counts and every state -/
theorem genStep_progress (c : GenCfg) (sizes : Nat → Nat) (hs : ∀ i, 1 ≤ sizes i) (hp : 1 ≤ c.popSize) (ho : 1 ≤ c.offSize) :
    Progress (genStep c sizes) GenState.nfe := by
  intro s
  fun_cases genStep c sizes s with
  | case1 h => rw [h]; exact hp   -- the first step: `initialize`
  | case2 h =>   -- a later step: `iterate`
    refine Nat.add_le_add_left (Nat.le_trans ?_ (genOffspring_ge c sizes hs s.pos)) _
    cases c.style
    case whileMerge | popCallsMerge | popCallsKeep | whileReplace | fixed => exact hp
    case whileFittest | callsMerge => exact ho
    case oneCallKeep | oneCallOne => exact Nat.le_refl 1

/-- for the style of NSGA-II (`whileMerge`), after the first step: the counter grows by at least `population_size` and by fewer
than that plus `a`, when no call returns more than `a` -/
theorem genStep_increment_while (c : GenCfg) (sizes : Nat → Nat) (hs : ∀ i, 1 ≤ sizes i) (a : Nat) (hb : ∀ i, sizes i ≤ a)
    (hst : c.style = .whileMerge) (hp : 1 ≤ c.popSize) (s : GenState) (h : s.nfe ≠ 0) :
    s.nfe + c.popSize ≤ (genStep c sizes s).nfe ∧ (genStep c sizes s).nfe < s.nfe + c.popSize + a := by
  rw [genStep, if_neg h, genOffspring, hst, Nat.add_assoc]
  exact ⟨Nat.add_le_add_left (offLoopF_reaches sizes hs _ _ 0 s.pos (Nat.le_add_left ..)) _,
    Nat.add_lt_add_left (offLoopF_overshoot sizes a hb _ _ 0 s.pos hp) _⟩

/-- C14, never more than the configured size -/
theorem genStep_pop_le (c : GenCfg) (sizes : Nat → Nat) (s : GenState) (hst : c.style ≠ .whileReplace) (h : s.pop ≤ c.popSize) :
    (genStep c sizes s).pop ≤ c.popSize := by
  fun_cases genStep c sizes s with
  | case1 => exact Nat.le_refl _   -- the first step
  | case2 =>   -- a later step
    unfold survivorsSize
    cases hc : c.style
    case whileMerge | whileFittest | callsMerge | popCallsMerge => exact Nat.min_le_left ..
    case oneCallKeep | popCallsKeep | oneCallOne | fixed => exact h
    case whileReplace => exact absurd hc hst

/-- C14: exactly the configured size after the first step and after a step from a population of that size, for every style
except the GA (and PESA2, whose offspring become the population and which the statement of C14 does not list) -/
theorem genStep_pop_eq (c : GenCfg) (sizes : Nat → Nat) (s : GenState) (hst : c.style ≠ .whileFittest)
    (hst2 : c.style ≠ .whileReplace) (h : s.nfe = 0 ∨ s.pop = c.popSize) : (genStep c sizes s).pop = c.popSize := by
  fun_cases genStep c sizes s with
  | case1 => rfl   -- the first step
  | case2 h0 =>   -- a later step
    rw [h.resolve_left h0]
    unfold survivorsSize
    cases hc : c.style
    case whileMerge | callsMerge | popCallsMerge => exact Nat.min_eq_left (Nat.le_add_left ..)
    case oneCallKeep | popCallsKeep | oneCallOne | fixed => rfl
    case whileFittest => exact absurd hc hst
    case whileReplace => exact absurd hc hst2

/-- C14, the GA: exactly the configured size after every step, unless `offspring_size + 1 < population_size` -/
theorem genStep_pop_ga (c : GenCfg) (sizes : Nat → Nat) (hs : ∀ i, 1 ≤ sizes i) (s : GenState) (hst : c.style = .whileFittest)
    (hsz : c.popSize ≤ c.offSize + 1) : (genStep c sizes s).pop = c.popSize := by
  fun_cases genStep c sizes s with
  | case1 => rfl   -- the first step
  | case2 =>   -- a later step
    have := genOffspring_ge c sizes hs s.pos
    rw [hst] at this
    rw [survivorsSize, hst]
    exact Nat.min_eq_left (Nat.le_trans hsz (Nat.add_le_add_right this 1))

/-- **every reachable state**: from the fresh algorithm (`nfe = 0`), after any positive number of steps the population has
exactly the configured size (styles other than the GA) and the counter is positive -/
theorem gen_reachable (c : GenCfg) (sizes : Nat → Nat) (hs : ∀ i, 1 ≤ sizes i) (hp : 1 ≤ c.popSize) (ho : 1 ≤ c.offSize)
    (hst : c.style ≠ .whileFittest) (hst2 : c.style ≠ .whileReplace) (s : GenState) (h0 : s.nfe = 0) (j : Nat) :
    ((genStep c sizes)^[j + 1] s).pop = c.popSize ∧ 1 ≤ ((genStep c sizes)^[j + 1] s).nfe := by
  have step (t : GenState) (h : t.nfe = 0 ∨ t.pop = c.popSize) :
      (genStep c sizes t).pop = c.popSize ∧ 1 ≤ (genStep c sizes t).nfe :=
    ⟨genStep_pop_eq c sizes t hst hst2 h, Nat.le_trans (Nat.le_add_left 1 _) (genStep_progress c sizes hs hp ho t)⟩
  induction j with
  | zero => exact step s (Or.inl h0)
  | succ j ih => rw [Function.iterate_succ_apply']; exact step _ (Or.inr ih.1)

/-- **C08 for the generational algorithms, without a premise about steps**: `run(N)` terminates within `N` steps, stops
after the first step at which the evaluations counted since the call began reach `N`, and no step is started afterwards -/
theorem gen_run_stops_at_first_reach (c : GenCfg) (sizes : Nat → Nat) (hs : ∀ i, 1 ≤ sizes i) (hp : 1 ≤ c.popSize)
    (ho : 1 ≤ c.offSize) (N : Nat) (s : GenState) :
    ∃ k, run (genStep c sizes) GenState.nfe N s = ((genStep c sizes)^[k] s, k) ∧ k ≤ N ∧
      (∀ i, i < k → ((genStep c sizes)^[i] s).nfe - s.nfe < N) ∧ ((genStep c sizes)^[k] s).nfe - s.nfe ≥ N :=
  run_stops_at_first_reach _ _ (genStep_progress c sizes hs hp ho) N s

/-- consecutive `run` calls of a generational algorithm continue from the current state with a fresh budget -/
theorem gen_run_twice (c : GenCfg) (sizes : Nat → Nat) (hs : ∀ i, 1 ≤ sizes i) (hp : 1 ≤ c.popSize) (ho : 1 ≤ c.offSize)
    (N₁ N₂ : Nat) (s : GenState) :
    ∃ k₁ k₂, run (genStep c sizes) GenState.nfe N₁ s = ((genStep c sizes)^[k₁] s, k₁) ∧
      run (genStep c sizes) GenState.nfe N₂ ((genStep c sizes)^[k₁] s) = ((genStep c sizes)^[k₂ + k₁] s, k₂) ∧
      ((genStep c sizes)^[k₂ + k₁] s).nfe - ((genStep c sizes)^[k₁] s).nfe ≥ N₂ :=
  run_twice _ _ (genStep_progress c sizes hs hp ho) N₁ N₂ s

/-- the premises are satisfiable; the model on a small case: NSGA-II with 5 members and a two-offspring variator evaluates
5, then 6 (three calls), then 6 -/
example : let c : GenCfg := { style := .whileMerge, popSize := 5, offSize := 5 }
    let s1 := genStep c (fun _ => 2) { nfe := 0, pos := 0, pop := 0 }
    let s2 := genStep c (fun _ => 2) s1
    let s3 := genStep c (fun _ => 2) s2
    (s1, s2, s3) = ({ nfe := 5, pos := 0, pop := 5 }, { nfe := 11, pos := 3, pop := 5 }, { nfe := 17, pos := 6, pop := 5 }) := by
  decide

end Platypus
