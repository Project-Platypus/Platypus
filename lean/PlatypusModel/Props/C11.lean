import PlatypusModel.Model.Constraint
import PlatypusModel.Props.C02
import Mathlib.Algebra.Order.Ring.Defs
import Mathlib.Algebra.Order.Group.Unbundled.Abs
import Mathlib.Algebra.Order.BigOperators.Group.List
/-!
# C11 — a constraint expression is violated exactly when its relation is false

Over any linearly ordered commutative ring (ℤ, ℚ, ℝ; doubles are tied by bit-exact correspondence), any
threshold, any value and any `delta > 0`: everything follows from the closed forms `viol_of_rel` /
`viol_of_not_rel`.  The parser theorems are instances of `splitChars_runs`: what the matcher returns on an
input cut into its runs.
-/
namespace Platypus

def Op.Rel {α : Type} [LT α] [LE α] (op : Op) (x y : α) : Prop :=
  match op with
  | .eq => x = y | .leq => x ≤ y | .geq => y ≤ x | .neq => x ≠ y | .lt => x < y | .gt => y < x

section
variable {α : Type} [CommRing α] [LinearOrder α] [IsStrictOrderedRing α]

theorem pyAbs_eq_abs (x : α) : pyAbs x = |x| := by
  unfold pyAbs
  split
  next h => exact (abs_of_neg h).symm
  next h => exact (abs_of_nonneg (not_lt.mp h)).symm

theorem viol_of_rel (op : Op) (δ x y : α) (h : op.Rel x y) : op.viol δ x y = 0 := by
  cases op
  case eq => exact (pyAbs_eq_abs _).trans (abs_eq_zero.mpr (sub_eq_zero.mpr h))
  case neq => exact if_pos (bne_iff_ne.mpr h)
  all_goals exact if_pos h

theorem viol_of_not_rel (op : Op) (δ x y : α) : ¬ op.Rel x y →
    op.viol δ x y = match op with
      | .neq => 1
      | .lt | .gt => |x - y| + δ
      | _ => |x - y| := by
  intro h
  cases op
  case eq => exact pyAbs_eq_abs _
  case neq => exact if_neg fun e => h (bne_iff_ne.mp e)
  all_goals exact (if_neg h).trans (by rw [pyAbs_eq_abs])

/-- strictly positive violation when the relation is false -/
theorem viol_pos_of_not_rel (op : Op) (δ x y : α) (hδ : 0 < δ) (h : ¬ op.Rel x y) :
    0 < op.viol δ x y := by
  have hne : x ≠ y → 0 < |x - y| := fun e => abs_pos.mpr (sub_ne_zero.mpr e)
  have hδ' : 0 < |x - y| + δ := add_pos_of_nonneg_of_pos (abs_nonneg _) hδ
  rw [viol_of_not_rel op δ x y h]
  cases op
  case eq => exact hne h
  case leq => exact hne fun e => h e.le
  case geq => exact hne fun e => h e.ge
  case neq => exact zero_lt_one
  all_goals exact hδ'

/-- zero violation exactly when the relation holds -/
theorem viol_zero_iff_rel (op : Op) (δ x y : α) (hδ : 0 < δ) : op.viol δ x y = 0 ↔ op.Rel x y :=
  ⟨fun e => by_contra fun h => (viol_pos_of_not_rel op δ x y hδ h).ne' e, viol_of_rel op δ x y⟩

/-- violations are never negative -/
theorem viol_nonneg (op : Op) (δ x y : α) (hδ : 0 < δ) : 0 ≤ op.viol δ x y := by
  by_cases h : op.Rel x y
  · exact (viol_of_rel op δ x y h).ge
  · exact (viol_pos_of_not_rel op δ x y hδ h).le

theorem abs_sub_mono_away {x x' y : α} (h : (y ≤ x ∧ x ≤ x') ∨ (x' ≤ x ∧ x ≤ y)) :
    |x - y| ≤ |x' - y| := by
  rcases h with ⟨h1, h2⟩ | ⟨h1, h2⟩
  · exact abs_le_abs_of_nonneg (sub_nonneg.mpr h1) (sub_le_sub_right h2 y)
  · rw [abs_sub_comm x, abs_sub_comm x']
    exact abs_le_abs_of_nonneg (sub_nonneg.mpr h2) (sub_le_sub_left h1 y)

/-- `==`: moving further from the threshold on either side never decreases the violation -/
theorem viol_eq_mono_away (δ x x' y : α) (h : (y ≤ x ∧ x ≤ x') ∨ (x' ≤ x ∧ x ≤ y)) :
    Op.eq.viol δ x y ≤ Op.eq.viol δ x' y := by
  simpa only [Op.viol, pyAbs_eq_abs] using abs_sub_mono_away h

/-- a move away from the threshold that cannot repair the relation (`!=`: an unrepaired violation stays 1,
whatever `haway`) -/
theorem viol_mono_away (op : Op) (δ x x' y : α) (hδ : 0 < δ)
    (hrel : op.Rel x' y → op.Rel x y)
    (haway : ¬ op.Rel x y → (y ≤ x ∧ x ≤ x') ∨ (x' ≤ x ∧ x ≤ y)) :
    op.viol δ x y ≤ op.viol δ x' y := by
  by_cases h : op.Rel x y
  · rw [viol_of_rel op δ x y h]; exact viol_nonneg op δ x' y hδ
  · have hd := abs_sub_mono_away (haway h)
    rw [viol_of_not_rel op δ x y h, viol_of_not_rel op δ x' y (mt hrel h)]
    cases op
    case neq => exact le_rfl
    case lt | gt => exact add_le_add_left hd δ
    all_goals exact hd

/-- `<=` and `<`: raising the value never decreases the violation -/
theorem viol_mono_up (op : Op) (hop : op = .leq ∨ op = .lt) (δ x x' y : α) (hδ : 0 < δ) (hx : x ≤ x') :
    op.viol δ x y ≤ op.viol δ x' y := by
  rcases hop with rfl | rfl
  · exact viol_mono_away .leq δ x x' y hδ hx.trans fun h => .inl ⟨(not_le.mp h).le, hx⟩
  · exact viol_mono_away .lt δ x x' y hδ hx.trans_lt fun h => .inl ⟨not_lt.mp h, hx⟩

/-- `>=` and `>`: lowering the value never decreases the violation -/
theorem viol_mono_down (op : Op) (hop : op = .geq ∨ op = .gt) (δ x x' y : α) (hδ : 0 < δ) (hx : x' ≤ x) :
    op.viol δ x y ≤ op.viol δ x' y := by
  rcases hop with rfl | rfl
  · exact viol_mono_away .geq δ x x' y hδ (fun h => h.trans hx) fun h => .inr ⟨hx, (not_le.mp h).le⟩
  · exact viol_mono_away .gt δ x x' y hδ (fun h => h.trans_le hx) fun h => .inr ⟨hx, not_lt.mp h⟩

/-- total violation = sum of the absolute violations of the constraints -/
theorem total_violation_eq_sum_abs (δ : α) (cs : List (Op × α)) (xs : List α) :
    totalViolation δ cs xs = (List.zipWith (fun (c : Op × α) x => |c.1.viol δ x c.2|) cs xs).sum := by
  simp only [totalViolation, pyAbs_eq_abs, ← List.sum_eq_foldl]

theorem totalViolation_eq_sum_zip (δ : α) (cs : List (Op × α)) (xs : List α) :
    totalViolation δ cs xs = ((cs.zip xs).map fun p => |p.1.1.viol δ p.2 p.1.2|).sum := by
  rw [total_violation_eq_sum_abs, List.map_zip_eq_zipWith]
  rfl

theorem totalViolation_nonneg (δ : α) (cs : List (Op × α)) (xs : List α) :
    0 ≤ totalViolation δ cs xs := by
  rw [totalViolation_eq_sum_zip]
  exact List.sum_nonneg (List.forall_mem_map.mpr fun _ _ => abs_nonneg _)

theorem totalViolation_eq_zero_iff (δ : α) (hδ : 0 < δ) (cs : List (Op × α)) (xs : List α) :
    totalViolation δ cs xs = 0 ↔ ∀ p ∈ cs.zip xs, p.1.1.Rel p.2 p.1.2 := by
  rw [totalViolation_eq_sum_zip]
  constructor
  · intro h p hp
    rw [← viol_zero_iff_rel _ δ _ _ hδ, ← abs_eq_zero]
    exact List.all_zero_of_le_zero_le_of_sum_eq_zero
      (List.forall_mem_map.mpr fun _ _ => abs_nonneg _) h (List.mem_map_of_mem hp)
  · intro h
    refine List.sum_eq_zero (List.forall_mem_map.mpr fun p hp => ?_)
    rw [viol_of_rel _ δ _ _ (h p hp), abs_zero]

set_option linter.unusedVariables false in -- `hl` is not needed: `zip` truncates as `zipWith` does
/-- feasible exactly when every constraint's relation holds (as many values as constraints) -/
theorem feasible_iff_all_rel (δ : α) (hδ : 0 < δ) (cs : List (Op × α)) (xs : List α)
    (hl : cs.length = xs.length) :
    totalViolation δ cs xs = 0 ↔ ∀ p ∈ cs.zip xs, p.1.1.Rel p.2 p.1.2 :=
  totalViolation_eq_zero_iff δ hδ cs xs

set_option linter.unusedSectionVars false in -- `[IsStrictOrderedRing α]` is not used: the comparator only compares
/-- a feasible solution always beats an infeasible one (constrained problem, C02 comparator) -/
theorem feasible_beats_infeasible (dirs : List Bool) (a b : Sol α) (ha : WF dirs a) (hb : WF dirs b)
    (hfa : a.cv = 0) (hfb : b.cv ≠ 0) : paretoCompare true dirs a b = -1 :=
  (pareto_neg_one_iff true dirs a b ha hb).mpr (.inl ⟨rfl, hfa ▸ hb.2.lt_of_ne' hfb⟩)
end

theorem takeWhile_append_stop {β : Type} {p : β → Bool} {a b : List β} (ha : ∀ c ∈ a, p c = true)
    (hb : ∀ x ∈ b.head?, p x = false) : (a ++ b).takeWhile p = a := by
  rw [List.takeWhile_append_of_pos ha]
  cases b with
  | nil => simp
  | cons x xs => simp [hb x rfl]

theorem dropWhile_append_stop {β : Type} {p : β → Bool} {a b : List β} (ha : ∀ c ∈ a, p c = true)
    (hb : ∀ x ∈ b.head?, p x = false) : (a ++ b).dropWhile p = b := by
  have h := List.takeWhile_append_dropWhile (p := p) (l := a ++ b)
  rw [takeWhile_append_stop ha hb] at h
  exact List.append_cancel_left h

theorem forall_head?_append {β : Type} {P : β → Prop} {a b : List β} (ha : ∀ c ∈ a, P c)
    (hb : a = [] → ∀ x ∈ b.head?, P x) : ∀ x ∈ (a ++ b).head?, P x := by
  cases a with
  | nil => exact hb rfl
  | cons c a => intro x hx; cases hx; exact ha c List.mem_cons_self

theorem isOpChar_of_isPySpace {c : Char} (h : isPySpace c = true) : isOpChar c = false := by
  unfold isOpChar
  by_contra hop
  simp only [Bool.not_eq_false, Bool.or_eq_true, beq_iff_eq] at hop
  rcases hop with ((rfl | rfl) | rfl) | rfl <;> exact absurd h (by decide)

theorem splitChars_runs {ops ws tok tail : List Char}
    (hops : ∀ c ∈ ops, isOpChar c = true) (hws : ∀ c ∈ ws, isPySpace c = true)
    (htok : ∀ c ∈ tok, (!isPySpace c && !isOpChar c) = true) (h0 : tok = [] → tail = [])
    (htail : ∀ x ∈ tail.head?, (!isPySpace x && !isOpChar x) = false) :
    splitChars (ops ++ ws ++ tok ++ tail) =
      if ops = [] ∨ tok = [] then none
      else if tail = [] ∨ tail = ['\n'] then some (ops, tok) else none := by
  have htok' : ∀ c ∈ tok, isPySpace c = false ∧ isOpChar c = false := by
    simpa only [Bool.and_eq_true, Bool.not_eq_true'] using htok
  -- each run ends where the next begins: the head of what follows is not of the run's class
  have hseam : ∀ {P : Char → Prop}, (∀ c ∈ tok, P c) → ∀ x ∈ (tok ++ tail).head?, P x :=
    fun hP => forall_head?_append hP fun e => by rw [h0 e]; nofun
  have hnosp := hseam fun c hc => (htok' c hc).1
  have hnoop := forall_head?_append (fun c hc => isOpChar_of_isPySpace (hws c hc))
    fun _ => hseam fun c hc => (htok' c hc).2
  simp only [splitChars, List.append_assoc, takeWhile_append_stop hops hnoop, dropWhile_append_stop hops hnoop,
    dropWhile_append_stop hws hnosp, takeWhile_append_stop htok htail, dropWhile_append_stop htok htail,
    List.isEmpty_iff, Bool.or_eq_true, beq_iff_eq]

theorem Op.toChars_all_op (op : Op) : ∀ c ∈ op.toChars, isOpChar c = true := by
  cases op <;> decide

theorem Op.ofChars_toChars (op : Op) : Op.ofChars? op.toChars = some op := by
  cases op <;> rfl

theorem Op.toChars_ne_nil (op : Op) : op.toChars ≠ [] := by cases op <;> nofun

def IsToken (t : List Char) : Prop := t ≠ [] ∧ ∀ c ∈ t, (!isPySpace c && !isOpChar c) = true

/-- every operator, any run of whitespace, any token the number parser accepts: accepted with
exactly that operator and that number (written together or with spaces) -/
theorem parse_accepts {α : Type} (parseNum : List Char → Option α) (op : Op) (ws t : List Char) (y : α)
    (hws : ∀ c ∈ ws, isPySpace c = true) (ht : IsToken t) (hy : parseNum t = some y) :
    parseChars parseNum (op.toChars ++ ws ++ t) = .ok op y := by
  have hs := splitChars_runs (tail := []) op.toChars_all_op hws ht.2 (fun _ => rfl) nofun
  rw [List.append_nil, if_neg (not_or_intro op.toChars_ne_nil ht.1), if_pos (.inl rfl)] at hs
  simp only [parseChars, hs, Op.ofChars_toChars, hy]

/-! Rejected: four shapes the regular expression does not match; where `splitChars` does match, an operator run outside
the table and a token the number parser refuses. -/

theorem parse_rejects_empty {α : Type} (parseNum : List Char → Option α) :
    parseChars parseNum [] = .error := rfl

theorem parse_rejects_missing_operator {α : Type} (parseNum : List Char → Option α) (c : Char)
    (cs : List Char) (hc : isOpChar c = false) : parseChars parseNum (c :: cs) = .error := by
  simp [parseChars, splitChars, hc]

set_option linter.unusedVariables false in -- `hwsop` follows from `hws` (`isOpChar_of_isPySpace`)
theorem parse_rejects_missing_value {α : Type} (parseNum : List Char → Option α) (ops ws : List Char)
    (hops : ∀ c ∈ ops, isOpChar c = true) (hws : ∀ c ∈ ws, isPySpace c = true)
    (hwsop : ∀ c ∈ ws, isOpChar c = false) :
    parseChars parseNum (ops ++ ws) = .error := by
  have hs := splitChars_runs (tok := []) (tail := []) hops hws nofun (fun _ => rfl) nofun
  rw [List.append_nil, List.append_nil, if_pos (.inr rfl)] at hs
  simp only [parseChars, hs]

theorem parse_rejects_unknown_operator {α : Type} (parseNum : List Char → Option α) (cs o t : List Char)
    (hs : splitChars cs = some (o, t)) (ho : Op.ofChars? o = none) : parseChars parseNum cs = .error := by
  simp [parseChars, hs, ho]

theorem parse_rejects_bad_number {α : Type} (parseNum : List Char → Option α) (cs o t : List Char)
    (hs : splitChars cs = some (o, t)) (hn : parseNum t = none) : parseChars parseNum cs = .error := by
  simp only [parseChars, hs]
  cases Op.ofChars? o <;> simp [hn]

/-- trailing garbage (anything but a single final newline) after the value is rejected -/
theorem parse_rejects_trailing {α : Type} (parseNum : List Char → Option α) (op : Op) (t g : List Char)
    (ht : IsToken t) (hg : g ≠ []) (hg' : g ≠ ['\n'])
    (hghead : ∀ x, g.head? = some x → (!isPySpace x && !isOpChar x) = false) :
    parseChars parseNum (op.toChars ++ t ++ g) = .error := by
  have hs := splitChars_runs (ws := []) op.toChars_all_op nofun ht.2 (absurd · ht.1) hghead
  rw [List.append_nil, if_neg (not_or_intro op.toChars_ne_nil ht.1), if_neg (not_or_intro hg hg')] at hs
  simp only [parseChars, hs]

example : parseChars (fun t => if t = ['1', '0'] then some (10 : Int) else none) "<=  10".toList = .ok .leq 10 := by
  decide
example : parseChars (fun _ => some (0 : Int)) "=<0".toList = .error := by decide
example : Op.leq.viol (1 : Int) 7 5 = 2 ∧ Op.lt.viol (1 : Int) 5 5 = 1 ∧ Op.neq.viol (1 : Int) 5 5 = 1 ∧
    Op.gt.viol (1 : Int) 6 5 = 0 := by decide

end Platypus
