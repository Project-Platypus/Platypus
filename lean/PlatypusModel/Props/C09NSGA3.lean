import PlatypusModel.Model.NSGA3
import PlatypusModel.Props.C04
import Mathlib.Data.List.Perm.Basic
import Mathlib.Data.Nat.Init
/-!
# C09 — NSGA-III's environmental selection (`_reference_point_truncate`)

`Model/NSGA3.lean` transcribes the method (tied to the code bit for bit by the correspondence check).  The theorems are about
the generic loop `nsga3TruncateG`: they hold for **every** rank annotation, every association of solutions to reference points,
every "closest candidate" choice and every outcome of `random.choice`; no arithmetic on doubles is used.  To `nsga3Truncate`,
the function the check runs on doubles, only the size and the origin of the next population are carried over
(`nsga3Truncate_shape`): `hassoc`, `hfm` and `GapFree` are not discharged for it (`argminDist_lt` is the fact about the scan
that the first two would come from).
-/
namespace Platypus

section
variable {σ : Type}

/-- invariant of the niching loop over `n` reference points: the three tables have one entry per reference point and an
excluded reference point has no candidates left -/
structure NicheInv (n : Nat) (st : Niche σ) : Prop where
  members_length : st.members.length = n
  potential_length : st.potential.length = n
  excluded_length : st.excluded.length = n
  excluded_empty : ∀ i, i < n → st.excluded.getD i false = true → st.potential.getD i [] = []

/-- what the least-crowded scan has established after the first `k` reference points -/
def MinScanInv (excluded : List Bool) (k : Nat) (acc : List Nat × Option Nat) : Prop :=
  (∀ i ∈ acc.1, i < k ∧ excluded.getD i false = false) ∧
    (acc.1 = [] → acc.2 = none ∧ ∀ i, i < k → excluded.getD i false = true)

theorem minIndices_inv (excluded : List Bool) (members : List Nat) :
    MinScanInv excluded members.length (minIndices members excluded) := by
  -- from the right, so that neither the start index of `zipIdx` nor the accumulator has to be generalised
  induction members using List.reverseRecOn with
  | nil => exact And.intro (fun _ h => nomatch h) fun _ => ⟨rfl, fun _ h => absurd h (Nat.not_lt_zero _)⟩
  | append_singleton ms m ih =>
    -- the scan of `ms ++ [m]` is one more step, on the pair `(m, ms.length)`, from the scan `acc` of `ms`
    unfold minIndices at ih ⊢
    rw [List.zipIdx_append, List.foldl_append, Nat.zero_add, List.length_append, List.length_singleton]
    generalize List.foldl _ _ ms.zipIdx = acc at ih ⊢
    obtain ⟨hmem, hnil⟩ := ih
    have hmem' : ∀ i ∈ acc.1, i < ms.length + 1 ∧ excluded.getD i false = false :=
      fun i hi => ⟨Nat.lt_succ_of_lt (hmem i hi).1, (hmem i hi).2⟩
    dsimp only [List.zipIdx_cons, List.zipIdx_nil, List.foldl_cons, List.foldl_nil]
    by_cases hex : excluded.getD ms.length false = true
    · rw [if_pos hex]
      refine ⟨hmem', fun h => ⟨(hnil h).1, fun i hi => ?_⟩⟩
      rcases Nat.lt_succ_iff_lt_or_eq.1 hi with hi | rfl
      · exact (hnil h).2 i hi
      · exact hex
    · rw [if_neg hex]
      have hk : ∀ i ∈ [ms.length], i < ms.length + 1 ∧ excluded.getD i false = false := fun i hi => by
        rw [List.mem_singleton.1 hi]
        exact ⟨Nat.lt_succ_self _, Bool.eq_false_iff.2 hex⟩
      rcases hacc : acc.2 with _ | mc
      · exact ⟨hk, fun h => nomatch h⟩
      · -- a count is recorded, so the scan holds something
        have hne : acc.1 ≠ [] := fun h => by rw [(hnil h).1] at hacc; cases hacc
        dsimp only
        split_ifs
        · exact ⟨hk, fun h => nomatch h⟩  -- `m < mc`: the list starts again at this position
        · exact ⟨fun i hi => (List.mem_append.1 hi).elim (hmem' i) (hk i),  -- `m = mc`: the position is appended
            fun h => absurd h (List.append_ne_nil_of_right_ne_nil _ (List.cons_ne_nil _ _))⟩
        · exact ⟨hmem', fun h => absurd h hne⟩  -- `mc < m`: kept

/-- the least-crowded scan returns positions of non-excluded reference points only -/
theorem minIndices_mem (members : List Nat) (excluded : List Bool) (i : Nat)
    (h : i ∈ (minIndices members excluded).1) : i < members.length ∧ excluded.getD i false = false :=
  (minIndices_inv excluded members).1 i h

/-- … and returns at least one whenever some reference point is not excluded -/
theorem minIndices_ne_nil (members : List Nat) (excluded : List Bool)
    (h : ∃ i, i < members.length ∧ excluded.getD i false = false) : (minIndices members excluded).1 ≠ [] := by
  obtain ⟨i, hi, hex⟩ := h
  intro hnil
  rw [((minIndices_inv excluded members).2 hnil).2 i hi] at hex
  cases hex

/-- the strict-`<` scan returns a position of its non-empty argument (also when every distance is NaN or +inf: the last one) -/
theorem argminDist_lt (ds : List Float) (h : ds ≠ []) : argminDist ds < ds.length := by
  refine List.foldlRecOn (motive := fun st : Option Nat × Float => st.1.getD (ds.length - 1) < ds.length) ds.zipIdx _
    (Nat.sub_lt (List.length_pos_of_ne_nil h) Nat.one_pos) fun st hst p hp => ?_
  split
  · exact (List.mem_zipIdx' hp).1
  · exact hst

/-! `>>=` on `Except`, inverted for both outcomes: `Ensures` (`Lemmas/C06Tape`) speaks of the returned value only, and the
failures of the loop are a subject here. -/

theorem bind_eq_ok {ε α β : Type} {x : Except ε α} {f : α → Except ε β} {c : β}
    (h : (x >>= f) = .ok c) : ∃ b, x = .ok b ∧ f b = .ok c := by
  cases x with
  | error e => cases h
  | ok b => exact ⟨b, rfl, h⟩

theorem bind_eq_error {ε α β : Type} {x : Except ε α} {f : α → Except ε β} {e : ε}
    (h : (x >>= f) = .error e) : x = .error e ∨ ∃ b, x = .ok b ∧ f b = .error e := by
  cases x with
  | error e' => left; cases h; rfl
  | ok b => exact Or.inr ⟨b, rfl, h⟩

theorem popChoice_lt {n : Nat} {tape t : RTape} {k : Nat} (h : popChoice n tape = .ok (k, t)) : k < n := by
  revert h
  fun_cases popChoice n tape with
  | case2 m k' tl h0 h1 =>  -- the recorded draw is one for `n` and lies below it
    intro h
    cases h
    exact of_decide_eq_true (Bool.and_eq_true_iff.1 h1).2
  | case1 | case3 | case4 | case5 => exact nofun  -- the failures

theorem popChoice_error {α : Type} {l : List α} {tape : RTape} {e : N3Err} (hl : l ≠ [])
    (h : popChoice l.length tape = .error e) : e = .tape := by
  revert h
  fun_cases popChoice l.length tape with
  | case1 _ _ _ h0 | case4 h0 => exact absurd (List.eq_nil_of_length_eq_zero (beq_iff_eq.1 h0)) hl  -- an empty list
  | case2 => exact nofun  -- a draw
  | case3 | case5 => exact fun h => (Except.error.inj h).symm  -- a record for another `n` or out of range; an empty tape

theorem count_set_true {l : List Bool} {i : Nat} (hi : i < l.length) (h : l.getD i false = false) :
    (l.set i true).count true = l.count true + 1 := by
  rw [List.getD_eq_getElem?_getD, List.getElem?_eq_getElem hi, Option.getD_some] at h
  rw [List.count_set hi, h]
  rfl

theorem flatten_set_eraseIdx_perm {L : List (List σ)} {idx j : Nat} {s : σ} (hi : idx < L.length)
    (hs : (L.getD idx [])[j]? = some s) :
    (s :: (L.set idx ((L.getD idx []).eraseIdx j)).flatten).Perm L.flatten := by
  rw [List.getD_eq_getElem?_getD, List.getElem?_eq_getElem hi, Option.getD_some] at hs ⊢
  obtain ⟨hj, rfl⟩ := List.getElem?_eq_some_iff.1 hs
  rw [List.set_eq_take_append_cons_drop, if_pos hi]
  conv_rhs => rw [← List.take_append_drop idx L, List.drop_eq_getElem_cons hi]
  simp only [List.flatten_append, List.flatten_cons]
  exact List.perm_middle.symm.trans (((List.getElem_cons_eraseIdx_perm hj).append_right _).append_left _)

theorem getD_set_ne {α : Type} {l : List α} {i j : Nat} {a d : α} (h : i ≠ j) :
    (l.set i a).getD j d = l.getD j d := by
  simp [List.getD_eq_getElem?_getD, List.getElem?_set_ne h]

theorem NicheInv.exclude {n : Nat} {st : Niche σ} (hinv : NicheInv n st) {idx : Nat}
    (hemp : st.potential.getD idx [] = []) : NicheInv n { st with excluded := st.excluded.set idx true } where
  members_length := hinv.members_length
  potential_length := hinv.potential_length
  excluded_length := by simpa using hinv.excluded_length
  excluded_empty i hi he := by
    by_cases hii : idx = i
    · exact hii ▸ hemp
    · exact hinv.excluded_empty i hi (by rwa [getD_set_ne hii] at he)

theorem NicheInv.select {n : Nat} {st : Niche σ} (hinv : NicheInv n st) {idx : Nat}
    (hidx : st.excluded.getD idx false = false) (res : List σ) (m : Nat) (pot : List σ) :
    NicheInv n { result := res, members := st.members.set idx m, potential := st.potential.set idx pot,
                 excluded := st.excluded } where
  members_length := by simpa using hinv.members_length
  potential_length := by simpa using hinv.potential_length
  excluded_length := hinv.excluded_length
  excluded_empty i hi he := by
    have hii : idx ≠ i := fun e => by rw [e, he] at hidx; cases hidx
    exact (getD_set_ne hii).trans (hinv.excluded_empty i hi he)

/-- one pass: the invariant is kept, the result grows by at most one member which is taken out of the candidates -/
theorem nicheStep_spec (findMin : List σ → Nat → Nat) (n : Nat) (st st' : Niche σ) (tape tape' : RTape)
    (hinv : NicheInv n st) (h : nicheStep findMin st tape = .ok (st', tape')) :
    NicheInv n st' ∧
      ((st'.result = st.result ∧ st'.potential = st.potential ∧
          (st'.excluded.count true = st.excluded.count true + 1)) ∨
       (∃ s, st'.result = st.result ++ [s] ∧ st'.excluded = st.excluded ∧
          (s :: st'.potential.flatten).Perm st.potential.flatten)) := by
  unfold nicheStep at h
  have hmem := minIndices_mem st.members st.excluded
  generalize minIndices st.members st.excluded = m at h hmem
  obtain ⟨mins, mc⟩ := m
  obtain ⟨⟨k, t1⟩, hk, h⟩ := bind_eq_ok h
  obtain ⟨hi1, hi2⟩ := hmem (mins.getD k 0) (by simp [List.getD_eq_getElem?_getD, popChoice_lt hk])
  dsimp only at h
  generalize mins.getD k 0 = idx at *
  rw [hinv.members_length] at hi1
  split at h
  next hemp =>
    cases h
    exact ⟨hinv.exclude (by simpa using hemp),
      Or.inl ⟨rfl, rfl, count_set_true (by rw [hinv.excluded_length]; exact hi1) hi2⟩⟩
  next =>
    split at h
    -- however `j` is chosen (closest candidate or a draw), the candidate at `j` moves to the result
    all_goals
      obtain ⟨⟨j, t2⟩, -, h⟩ := bind_eq_ok h
      dsimp only at h
      split at h
      · cases h
      next s hs =>
        cases h
        exact ⟨hinv.select hi2 _ _ _,
          Or.inr ⟨s, rfl, rfl, flatten_set_eraseIdx_perm (by rw [hinv.potential_length]; exact hi1) hs⟩⟩

/-- the loop: the starting result is a prefix of the outcome, everything after it comes from the candidates (each at most
once), and the outcome has exactly `size` members -/
theorem nicheLoop_spec (findMin : List σ → Nat → Nat) (size n : Nat) (fuel : Nat) (st : Niche σ) (tape tape' : RTape)
    (out : List σ) (hinv : NicheInv n st) (hle : st.result.length ≤ size)
    (h : nicheLoop findMin size fuel st tape = .ok (out, tape')) :
    ∃ chosen, out = st.result ++ chosen ∧ chosen.Subperm st.potential.flatten ∧ out.length = size := by
  fun_induction nicheLoop findMin size fuel st tape with
  | case1 => cases h  -- out of fuel, result short: `.error .fuel`
  | case2 | case4 =>  -- result not short: returned as it is
    cases h
    exact ⟨[], by simp, List.nil_subperm, by omega⟩
  | case3 fuel st tape hlt ih =>  -- one pass, then the loop on its outcome
    obtain ⟨⟨st1, t1⟩, hstep, h⟩ := bind_eq_ok h
    obtain ⟨hinv1, hcase⟩ := nicheStep_spec findMin n st st1 tape t1 hinv hstep
    rcases hcase with ⟨hr, hp, _⟩ | ⟨s, hr, _, hp⟩
    · obtain ⟨chosen, ho, hc, hl⟩ := ih st1 t1 hinv1 (by rw [hr]; exact hle) h
      exact ⟨chosen, by rw [ho, hr], by rw [← hp]; exact hc, hl⟩
    · obtain ⟨chosen, ho, hc, hl⟩ := ih st1 t1 hinv1 (by rw [hr]; simp; omega) h
      refine ⟨s :: chosen, by rw [ho, hr]; simp, ?_, hl⟩
      exact ((List.subperm_cons s).mpr hc).trans hp.subperm

theorem NicheInv.minScan_ne_nil {n : Nat} {st : Niche σ} (hinv : NicheInv n st) (hcand : st.potential.flatten ≠ []) :
    (minIndices st.members st.excluded).1 ≠ [] := by
  obtain ⟨x, hx⟩ := List.exists_mem_of_ne_nil _ hcand
  obtain ⟨p, hp, hxp⟩ := List.mem_flatten.1 hx
  obtain ⟨i, hi, rfl⟩ := List.getElem_of_mem hp
  rw [hinv.potential_length] at hi
  refine minIndices_ne_nil _ _ ⟨i, by rw [hinv.members_length]; exact hi, Bool.eq_false_iff.2 fun he => ?_⟩
  have := hinv.excluded_empty i hi he
  rw [List.getD_eq_getElem?_getD, List.getElem?_eq_getElem (by rw [hinv.potential_length]; exact hi),
    Option.getD_some] at this
  exact List.ne_nil_of_mem hxp this

theorem nicheStep_error (findMin : List σ → Nat → Nat) (hfm : ∀ pot idx, pot ≠ [] → findMin pot idx < pot.length)
    (n : Nat) (st : Niche σ) (tape : RTape) (e : N3Err) (hinv : NicheInv n st)
    (hcand : st.potential.flatten ≠ [])
    (h : nicheStep findMin st tape = .error e) : e = .tape := by
  have hmins := hinv.minScan_ne_nil hcand
  unfold nicheStep at h
  rcases hm : minIndices st.members st.excluded with ⟨mins, mc⟩
  rw [hm] at h hmins
  rcases bind_eq_error h with hk | ⟨⟨k, t1⟩, -, h⟩
  · exact popChoice_error hmins hk
  dsimp only at h
  generalize mins.getD k 0 = idx at h
  split at h
  · cases h
  next hemp =>
    -- either way `j` is below the length of the candidate list, so `pot[j]?` cannot fail
    have hne : st.potential.getD idx [] ≠ [] := by simpa using hemp
    split at h
    · rcases bind_eq_error h with hj | ⟨⟨j, t2⟩, hj, h⟩
      · cases hj
      · cases hj
        dsimp only at h
        rw [List.getElem?_eq_getElem (hfm _ idx hne)] at h
        cases h
    · rcases bind_eq_error h with hj | ⟨⟨j, t2⟩, hj, h⟩
      · exact popChoice_error hne hj
      · dsimp only at h
        rw [List.getElem?_eq_getElem (popChoice_lt hj)] at h
        cases h

/-- the loop cannot fail with an empty `random.choice` / a bad index nor exhaust its iteration bound: with enough
candidates and `fuel ≥ (#not excluded) + (size - |result|)` the only possible failure is a tape mismatch -/
theorem nicheLoop_progress (findMin : List σ → Nat → Nat) (hfm : ∀ pot idx, pot ≠ [] → findMin pot idx < pot.length)
    (size n : Nat) (fuel : Nat) (st : Niche σ) (tape : RTape) (e : N3Err)
    (hinv : NicheInv n st) (hcand : size ≤ st.result.length + st.potential.flatten.length)
    (hfuel : (n - st.excluded.count true) + (size - st.result.length) ≤ fuel)
    (h : nicheLoop findMin size fuel st tape = .error e) : e = .tape := by
  fun_induction nicheLoop findMin size fuel st tape with
  | case1 => omega  -- out of fuel, result short: against `hfuel`
  | case2 | case4 => cases h  -- result not short: `.ok`
  | case3 fuel st tape hlt ih =>  -- one pass, then the loop; the measure of `hfuel` falls with either outcome
    rcases bind_eq_error h with hstep | ⟨⟨st1, t1⟩, hstep, h⟩
    · refine nicheStep_error findMin hfm n st tape e hinv (fun h0 => ?_) hstep
      rw [h0] at hcand
      exact Nat.not_le_of_lt hlt hcand
    · obtain ⟨hinv1, hcase⟩ := nicheStep_spec findMin n st st1 tape t1 hinv hstep
      have hc1 := List.count_le_length (a := true) (l := st1.excluded)
      rw [hinv1.excluded_length] at hc1
      rcases hcase with ⟨hr, hp, hc⟩ | ⟨s, hr, he, hp⟩
      · exact ih st1 t1 hinv1 (by rw [hr, hp]; exact hcand) (by rw [hr, hc]; omega) h
      · have hl := hp.length_eq
        simp only [List.length_cons] at hl
        exact ih st1 t1 hinv1 (by rw [hr]; simp only [List.length_append, List.length_singleton]; omega)
          (by rw [hr, he]; simp only [List.length_append, List.length_singleton]; omega) h

/-- the association tables are a rearrangement of (part of) the associated list; of all of it if every association is a
reference point -/
theorem associate_flatten_subperm (nrefs : Nat) (assoc : σ → Nat) (l : List σ) :
    (associate nrefs assoc l).flatten.Subperm l :=
  -- `associate nrefs assoc l` unfolds to `(List.range nrefs).map (matchesRank assoc l)`; its `flatten` is the `flatMap` of C04
  ((List.flatMap_def ..).symm ▸ flatMap_matchesRank_perm assoc l nrefs).subperm.trans List.filter_sublist.subperm

theorem associate_flatten_perm (nrefs : Nat) (assoc : σ → Nat) (l : List σ) (h : ∀ s ∈ l, assoc s < nrefs) :
    (associate nrefs assoc l).flatten.Perm l := by
  refine ((List.flatMap_def ..).symm ▸ flatMap_matchesRank_perm assoc l nrefs).trans (.of_eq ?_)
  exact List.filter_eq_self.2 fun s hs => decide_eq_true (h s hs)

theorem associate_length (nrefs : Nat) (assoc : σ → Nat) (l : List σ) : (associate nrefs assoc l).length = nrefs := by
  simp [associate]

theorem NicheInv.init (nrefs : Nat) (assoc : σ → Nat) (result remaining : List σ) :
    NicheInv nrefs
      ({ result := result,
         members := (associate nrefs assoc result).map (·.length),
         potential := associate nrefs assoc remaining,
         excluded := List.replicate nrefs false } : Niche σ) where
  members_length := by simp [associate_length]
  potential_length := associate_length _ _ _
  excluded_length := by simp
  excluded_empty i hi he := by simp [List.getD_eq_getElem?_getD, hi] at he

theorem nsga3TruncateG_of_lt {rank : σ → Nat} {nrefs : Nat} {assoc : σ → Nat} {findMin : List σ → Nat → Nat}
    {sols : List σ} {size : Nat} {tape : RTape} (hbig : size < sols.length) :
    nsga3TruncateG rank nrefs assoc findMin sols size tape =
      nicheLoop findMin size (nrefs + size + 1)
        { result := (nondominatedSplit rank sols size).1,
          members := (associate nrefs assoc (nondominatedSplit rank sols size).1).map (·.length),
          potential := associate nrefs assoc (nondominatedSplit rank sols size).2,
          excluded := List.replicate nrefs false } tape := by
  unfold nsga3TruncateG
  rw [if_pos hbig]

theorem nsga3TruncateG_of_le {rank : σ → Nat} {nrefs : Nat} {assoc : σ → Nat} {findMin : List σ → Nat → Nat}
    {sols : List σ} {size : Nat} {tape : RTape} (hle : sols.length ≤ size) :
    nsga3TruncateG rank nrefs assoc findMin sols size tape = .ok (sols, tape) :=
  if_neg (Nat.not_lt.2 hle)

/-- **NSGA-III survival, for every rank annotation, association, choice and draw.**  If the merged population does not
exceed `size` it is the next population.  Otherwise the next population has exactly `size` members and consists of the
fronts `0 … r-1` (all of them, in rank order) followed by members of front `r` only, each at most once. -/
theorem nsga3TruncateG_spec (rank : σ → Nat) (nrefs : Nat) (assoc : σ → Nat) (findMin : List σ → Nat → Nat)
    (sols : List σ) (size : Nat) (tape tape' : RTape) (out : List σ)
    (h : nsga3TruncateG rank nrefs assoc findMin sols size tape = .ok (out, tape')) :
    (sols.length ≤ size → out = sols) ∧
    (size < sols.length → out.length = size ∧
      ∃ r chosen, out = (List.range r).flatMap (matchesRank rank sols) ++ chosen ∧
        chosen.Subperm (matchesRank rank sols r)) := by
  constructor
  · intro hle
    rw [nsga3TruncateG_of_le hle] at h
    cases h
    rfl
  · intro hbig
    rw [nsga3TruncateG_of_lt hbig] at h
    obtain ⟨r, h1, h2, h3⟩ := split_snd_sublist rank sols size
    obtain ⟨chosen, ho, hc, hl⟩ := nicheLoop_spec findMin size nrefs _ _ tape tape' out (NicheInv.init _ _ _ _) h2 h
    exact ⟨hl, r, chosen, by rw [ho]; exact congrArg (· ++ chosen) h1,
      (hc.trans (associate_flatten_subperm nrefs assoc _)).trans h3.subperm⟩

/-- in the words of the property: the first front is retained entirely if it fits, otherwise the survivors are drawn only
from it -/
theorem nsga3TruncateG_elitist (rank : σ → Nat) (nrefs : Nat) (assoc : σ → Nat) (findMin : List σ → Nat → Nat)
    (sols : List σ) (size : Nat) (tape tape' : RTape) (out : List σ) (hbig : size < sols.length)
    (h : nsga3TruncateG rank nrefs assoc findMin sols size tape = .ok (out, tape')) :
    ((matchesRank rank sols 0).length ≤ size → (matchesRank rank sols 0).Subperm out) ∧
    (size < (matchesRank rank sols 0).length → out.Subperm (matchesRank rank sols 0)) := by
  obtain ⟨hl, r, chosen, ho, hc⟩ := (nsga3TruncateG_spec rank nrefs assoc findMin sols size tape tape' out h).2 hbig
  cases r with
  | zero =>
    simp only [List.range_zero, List.flatMap_nil, List.nil_append] at ho
    subst ho
    exact ⟨fun hle => (hc.perm_of_length_le (by omega)).symm.subperm, fun _ => hc⟩
  | succ r =>
    have hpre : (matchesRank rank sols 0).Sublist out := by
      rw [ho, List.range_succ_eq_map, List.flatMap_cons, List.append_assoc]
      exact List.sublist_append_left _ _
    refine ⟨fun _ => hpre.subperm, fun hlt => ?_⟩
    have := hpre.length_le
    omega

/-- no empty `random.choice`, no bad index, no exhausted iteration bound, provided every solution is associated with a
reference point, the closest-candidate choice is a position of its argument and the split supplies at least `size`
solutions -/
theorem nsga3TruncateG_progress (rank : σ → Nat) (nrefs : Nat) (assoc : σ → Nat) (findMin : List σ → Nat → Nat)
    (hfm : ∀ pot idx, pot ≠ [] → findMin pot idx < pot.length)
    (sols : List σ) (size : Nat) (tape : RTape) (e : N3Err) (hassoc : ∀ s ∈ sols, assoc s < nrefs)
    (hsplit : size ≤ (nondominatedSplit rank sols size).1.length + (nondominatedSplit rank sols size).2.length)
    (h : nsga3TruncateG rank nrefs assoc findMin sols size tape = .error e) : e = .tape := by
  rcases Nat.lt_or_ge size sols.length with hbig | hle
  · rw [nsga3TruncateG_of_lt hbig] at h
    obtain ⟨r, -, -, h3⟩ := split_snd_sublist rank sols size
    refine nicheLoop_progress findMin hfm size nrefs _ _ tape e (NicheInv.init _ _ _ _) ?_ ?_ h
    · rw [(associate_flatten_perm nrefs assoc _ fun s hs => hassoc s (mem_matchesRank.1 (h3.subset hs)).1).length_eq]
      exact hsplit
    · dsimp only
      omega
  · rw [nsga3TruncateG_of_le hle] at h
    cases h

/-- a rank annotation without gaps: below every rank that occurs, every smaller rank occurs too (what `nondominated_sort`
assigns: front `r + 1` is only started when front `r` was non-empty) -/
def GapFree (rank : σ → Nat) (l : List σ) : Prop :=
  ∀ x ∈ l, ∀ r, r < rank x → matchesRank rank l r ≠ []

/-- with gap-free ranks `nondominated_split` always supplies enough solutions: the hypothesis of
`nsga3TruncateG_progress` is met whenever the merged population is at least as large as the target size -/
theorem split_supplies_of_gapFree (rank : σ → Nat) (l : List σ) (size : Nat) (hg : GapFree rank l) (hlen : size ≤ l.length) :
    size ≤ (nondominatedSplit rank l size).1.length + (nondominatedSplit rank l size).2.length := by
  obtain ⟨r, h1, h2, h3⟩ := split_spec rank l size
  rcases h3 with ⟨_, hfull | hemp⟩ | ⟨_, hlt⟩
  · omega
  · -- front `r` is empty: by gap-freeness every member has rank `< r`, so the kept fronts are the whole population
    have hall : ∀ x ∈ l, decide (rank x < r) = true := fun x hx => by
      rw [decide_eq_true_eq]
      by_contra hnot
      rcases Nat.lt_or_eq_of_le (Nat.le_of_not_lt hnot) with hlt | heq
      · exact hg x hx r hlt hemp
      · exact List.ne_nil_of_mem (mem_matchesRank.2 ⟨hx, heq.symm⟩) hemp
    rw [h1, (flatMap_matchesRank_perm rank l r).length_eq, List.filter_eq_self.2 hall]
    omega
  · omega

/-- NSGA-III's survival selection with gap-free ranks, every solution associated with a reference point and a valid
closest-candidate choice can fail on a tape mismatch only: no `random.choice([])`, no index out of range, no exhausted bound -/
theorem nsga3TruncateG_total_of_gapFree (rank : σ → Nat) (nrefs : Nat) (assoc : σ → Nat) (findMin : List σ → Nat → Nat)
    (hfm : ∀ pot idx, pot ≠ [] → findMin pot idx < pot.length)
    (sols : List σ) (size : Nat) (tape : RTape) (e : N3Err) (hassoc : ∀ s ∈ sols, assoc s < nrefs)
    (hg : GapFree rank sols)
    (h : nsga3TruncateG rank nrefs assoc findMin sols size tape = .error e) : e = .tape := by
  rcases Nat.lt_or_ge size sols.length with hbig | hle
  · exact nsga3TruncateG_progress rank nrefs assoc findMin hfm sols size tape e hassoc
      (split_supplies_of_gapFree rank sols size hg (Nat.le_of_lt hbig)) h
  · rw [nsga3TruncateG_of_le hle] at h
    cases h

/-- the ranks that `nondominated_sort` assigns (peeling fronts with any `StrictCmp`, over solutions with distinct
identities) are gap-free -/
theorem sortRanks_gapFree {cmp : σ → σ → Int} (h : StrictCmp cmp) (getId : σ → Nat) (sols : List σ)
    (hid : (sols.map getId).Nodup) :
    GapFree (fun x => (rankIn getId (sortFronts cmp getId sols) (getId x)).getD 0) sols := by
  intro x hx r hr
  obtain ⟨q, hq⟩ := sort_assigns_rank h getId sols x hx
  have hr' : r < q := by simpa only [hq, Option.getD_some] using hr
  -- downwards from the rank `q` of `x`: a member of rank `k + 1` has a dominator of rank `k`
  obtain ⟨y, hy, hry⟩ : ∃ y ∈ sols, rankIn getId (sortFronts cmp getId sols) (getId y) = some r :=
    Nat.decreasingInduction (fun k _ ⟨z, hz, hrz⟩ =>
      (exists_dominator_of_rank_succ h hid hz hrz).imp fun _ hy => ⟨hy.1, hy.2.2⟩) ⟨x, hx, hq⟩ (Nat.le_of_lt hr')
  exact List.ne_nil_of_mem (mem_matchesRank.2 ⟨hy, by rw [hry]; rfl⟩)
end

theorem map_zip_fst {α β γ : Type} (f : α → γ) (l₁ : List α) (l₂ : List β) (h : l₁.length ≤ l₂.length) :
    (l₁.zip l₂).map (fun p => f p.1) = l₁.map f := by
  rw [show (fun p : α × β => f p.1) = f ∘ Prod.fst from rfl, ← List.map_map, List.map_fst_zip h]

/-- Mathlib's `List.Subperm.map` asks for an injective `f`; none is needed -/
theorem subperm_map {α β : Type} (f : α → β) {l₁ l₂ : List α} (h : l₁.Subperm l₂) :
    (l₁.map f).Subperm (l₂.map f) := by
  obtain ⟨l, hp, hs⟩ := h
  exact ⟨l.map f, hp.map f, hs.map f⟩

theorem nsga3TruncateG_subperm {σ : Type} {rank : σ → Nat} {nrefs : Nat} {assoc : σ → Nat} {findMin : List σ → Nat → Nat}
    {sols : List σ} {size : Nat} {tape tape' : RTape} {out : List σ} (hbig : size < sols.length)
    (h : nsga3TruncateG rank nrefs assoc findMin sols size tape = .ok (out, tape')) :
    out.length = size ∧ out.Subperm sols := by
  obtain ⟨hl, r, chosen, ho, hc⟩ := (nsga3TruncateG_spec rank nrefs assoc findMin sols size tape tape' out h).2 hbig
  refine ⟨hl, ?_⟩
  have h1 : out.Subperm ((List.range (r + 1)).flatMap (matchesRank rank sols)) := by
    rw [ho, List.range_succ, List.flatMap_append, List.flatMap_singleton]
    exact (List.subperm_append_left _).mpr hc
  exact h1.trans ((flatMap_matchesRank_perm rank sols (r + 1)).subperm.trans List.filter_sublist.subperm)

/-- the function the check runs on doubles: the next population has exactly `size` members, all taken from the merged
population, none more often than it occurs there -/
theorem nsga3Truncate_shape (c : Bool) (dirs : List Bool) (ideal : List Float) (refs : List (List Float))
    (merged : List (Sol Float)) (size : Nat) (tape tape' : RTape) (ids : List Nat) (ideal' : List Float)
    (hbig : size < merged.length)
    (h : nsga3Truncate c dirs ideal refs merged size tape = some (.ok (ids, ideal', tape'))) :
    ids.length = size ∧ ids.Subperm (merged.map (·.id)) := by
  simp only [nsga3Truncate, gt_iff_lt, hbig, if_true] at h
  by_cases hany : (refs.any fun r => dotF r r == 0.0) = true
  · rw [if_pos hany] at h; cases h
  · rw [if_neg hany] at h
    rw [Option.some.injEq] at h
    split at h
    · cases h
    · rename_i out t hr
      cases h
      -- the generic loop gets `merged` zipped with as many ranks and normalised objectives
      have hranked : (rankAndCrowd c dirs merged).length = merged.length := by simp [rankAndCrowd]
      obtain ⟨h1, h2⟩ := nsga3TruncateG_subperm (by simp [hranked]; omega) hr
      refine ⟨by simpa using h1, ?_⟩
      have h3 := subperm_map (fun x : N3Sol => x.id) h2
      rw [List.map_map] at h3
      refine h3.trans (List.Perm.subperm (List.Perm.of_eq ?_))
      apply map_zip_fst (fun s : Sol Float => s.id)
      simp [hranked]

/-- non-vacuity: a concrete niching state meets the invariant and one pass of the loop on it succeeds -/
example : NicheInv 2 ({ result := [7], members := [1, 0], potential := [[8], [9]], excluded := [false, false] } : Niche Nat) ∧
    (nicheLoop (fun _ _ => 0) 2 5 ({ result := [7], members := [1, 0], potential := [[8], [9]], excluded := [false, false] } : Niche Nat)
      [(1, 0)]) = .ok ([7, 9], []) :=
  ⟨⟨rfl, rfl, rfl, by decide⟩, rfl⟩

end Platypus
