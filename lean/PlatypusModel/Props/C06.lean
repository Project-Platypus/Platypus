import PlatypusModel.Props.C06Real
import PlatypusModel.Props.C06Perm
import PlatypusModel.Props.C06Subset
/-!
# C06 — variation operators return valid offspring and never modify their parents

The theorems are in `C06Real.lean` (clip incl. NaN, PM / UM / UniformMutation / NonUniformMutation, SBX, DE, PCX / UNDX /
SPX, BitFlip, HUX), `C06Perm.lean` (Swap, Insertion, PMX incl. termination of the replacement chain), `C06Subset.lean`
(Replace, SSX, GAOperator, CompoundMutation, CompoundOperator), `C06Multi.lean` and `C06MultiProb.lean` (Multimethod; not
imported here).  "Never modifies its parents" holds by construction: the operator models are functions of immutable parent
values; that the Python operators behave like these functions, leaving the parent objects untouched, is what the
correspondence check compares on every run.  "Returns without error" is not a theorem: every statement is of the form "if
the operator returns"; only the fuel of PMX's replacement chain is shown sufficient (`pmxChild_terminates`), that of
`popDistinct` (Swap, Insertion, PMX) is not.  That the Python operators return is tied by correspondence.
-/
