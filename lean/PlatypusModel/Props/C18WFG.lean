import PlatypusModel.Model.WFG
import PlatypusModel.Props.C18
set_option linter.unusedSectionVars false
/-
C18, WFG part — shape-function identities of the WFG reference implementation (`Model/WFG.lean`, compared with
platypus/problems.py on every run): the concave shapes lie on the unit sphere, the linear shapes on the unit simplex.
`concave_front` / `concave_on_front` are about `wfgF` over the concave shapes of any `x`, the form of `concaveF` (hence
of `wfg4`–`wfg9`); no theorem mentions those, and `hpos`, `hxM` are derived for no WFG problem.
-/
namespace Platypus.C18

variable {α : Type} [Field α] [LinearOrder α] [IsStrictOrderedRing α]

theorem shConcave_sum_sq (t : Trig α) (h : TrigOK t) (M : Nat) (hM : 1 ≤ M) (x : List α) (hx : x.length = M - 1) :
    sumSq ((List.range M).map fun i => shConcave t M (i + 1) x) = 1 := by
  have key := chain_sum (fun f => f * f) (fun v => t.sin (v * t.pi * (1 / (1 + 1)))) (fun v => t.cos (v * t.pi * (1 / (1 + 1))))
    (fun P v => (add_comm _ _).trans (split_sq P _ _ (h.pythag _))) 1 x M hM hx.ge
  -- the shapes are indexed `m = i + 1`: `M - (i + 1) = M - 1 - i`, `i + 1 = 1 ↔ i = 0`
  simp only [one_mul, ← Nat.sub_add_eq, Nat.add_comm 1] at key
  simp only [sumSq, List.map_map, shConcave, Nat.add_eq_right]
  exact key

theorem shLinear_sum (M : Nat) (hM : 1 ≤ M) (x : List α) (hx : x.length = M - 1) :
    sumL ((List.range M).map fun i => shLinear M (i + 1) x) = 1 := by
  have key := chain_sum id id (fun v => 1 - v) split_linear 1 x M hM hx.ge
  simp only [one_mul, ← Nat.sub_add_eq, Nat.add_comm 1, List.map_id, id] at key
  simpa only [shLinear, Nat.add_eq_right] using key

theorem wfgF_length (t : Trig α) (x h : List α) : (wfgF t x h).length = h.length := by
  rw [wfgF, List.length_map, List.length_range]

/-- `Σ (f_m / (2m))²` of the objectives of a concave WFG problem -/
def scaledSq (t : Trig α) (F : List α) : α :=
  sumL ((List.range F.length).map fun i => (F.getD i 0 / t.ofNat (2 * (i + 1))) * (F.getD i 0 / t.ofNat (2 * (i + 1))))

theorem scaledSq_wfgF (t : Trig α) (h : TrigOK t) (M : Nat) (x : List α) (H : Nat → α) :
    scaledSq t (wfgF t x ((List.range M).map H))
      = sumSq ((List.range M).map fun i => x.getLast?.getD 0 / t.ofNat (2 * (i + 1)) + H i) := by
  unfold scaledSq
  rw [wfgF_length, List.length_map, List.length_range, sumSq, List.map_map]
  congr 1
  refine List.map_congr_left fun i hi => ?_
  have e : (wfgF t x ((List.range M).map H)).getD i 0
      = x.getLast?.getD 0 + t.ofNat (2 * (i + 1)) * H i := by
    simp [wfgF, List.mem_range.1 hi]
  have h0 : t.ofNat (2 * (i + 1)) ≠ 0 := by
    rw [h.ofNat_eq]
    exact Nat.cast_ne_zero.2 (Nat.mul_ne_zero two_ne_zero i.succ_ne_zero)
  rw [e, add_div, mul_div_cancel_left₀ _ h0]
  rfl

/-- the form of the WFG4–9 objectives (concave shapes, `f_m = x_M + 2m h_m`): with non-negative shapes and `x_M ≥ 0`,
`Σ (f_m/2m)² ≥ 1` -/
theorem concave_front (t : Trig α) (h : TrigOK t) (M : Nat) (hM : 1 ≤ M) (x : List α) (hx : x.length = M)
    (hpos : ∀ i, i < M → 0 ≤ shConcave t M (i + 1) x.dropLast) (hxM : 0 ≤ x.getLast?.getD 0) :
    1 ≤ scaledSq t (wfgF t x ((List.range M).map fun i => shConcave t M (i + 1) x.dropLast)) := by
  rw [scaledSq_wfgF t h, ← shConcave_sum_sq t h M hM x.dropLast (by rw [List.length_dropLast, hx]), sumSq, sumSq,
    List.map_map, List.map_map, sumL_eq_sum, sumL_eq_sum]
  exact List.sum_le_sum fun i hi => mul_self_le_mul_self (hpos i (List.mem_range.1 hi))
    (le_add_of_nonneg_left (div_nonneg hxM (h.ofNat_nonneg _)))

/-- … with equality when `x_M = 0` (what the samplers produce: optimal distance parameters) -/
theorem concave_on_front (t : Trig α) (h : TrigOK t) (M : Nat) (hM : 1 ≤ M) (x : List α) (hx : x.length = M)
    (hxM : x.getLast?.getD 0 = 0) :
    scaledSq t (wfgF t x ((List.range M).map fun i => shConcave t M (i + 1) x.dropLast)) = 1 := by
  rw [scaledSq_wfgF t h, hxM]
  simp only [zero_div, zero_add]
  exact shConcave_sum_sq t h M hM x.dropLast (by rw [List.length_dropLast, hx])
end Platypus.C18
