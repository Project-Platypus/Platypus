import PlatypusModel.Model.HVFit
import Mathlib.Algebra.Group.Basic
import Mathlib.Algebra.Ring.Defs
set_option linter.unusedSectionVars false
/-!
# C10 — the hypervolume-based fitness of IBEA does not depend on how a direction is encoded

`hvFit` (the repaired `HypervolumeFitnessEvaluator.hypervolume`) takes the normalised coordinates and the directions as
functions of the coordinate index.  It is shown to depend on a solution only through its coordinates in "smaller is better"
orientation (`hvFit_oriented`), hence to be unchanged when any set of coordinates is mirrored, `n ↦ 1 - n`, and declared
maximised (`hvFit_flip`).  That normalising a negated, maximised objective gives this mirror is `normObjs_flip` in
`Props/C10Ind.lean`, a statement about lists; the two are not composed.
-/
namespace Platypus

theorem hvAdj_false {α : Type} [Sub α] [OfNat α 1] (v : α) : hvAdj false v = v := if_neg Bool.false_ne_true

-- `hvAdj_flip` and `hvAdj_flipped` use the ring alone of the four instances (hence the linter option above)
variable {α : Type} [Ring α] [Div α] [LT α] [DecidableLT α]

/-- mirroring a coordinate and toggling its direction leaves the oriented coordinate unchanged -/
theorem hvAdj_flip (mx : Bool) (v : α) : hvAdj (!mx) (1 - v) = hvAdj mx v := by
  cases mx <;> simp [hvAdj]

def fitFlipDirs (S : Nat → Bool) (maxs : Nat → Bool) : Nat → Bool := fun i => if S i then !maxs i else maxs i
def fitFlipNorm (S : Nat → Bool) (n : Nat → α) : Nat → α := fun i => if S i then 1 - n i else n i

theorem hvAdj_flipped (S maxs : Nat → Bool) (n : Nat → α) (i : Nat) :
    hvAdj (fitFlipDirs S maxs i) (fitFlipNorm S n i) = hvAdj (maxs i) (n i) := by
  unfold fitFlipDirs fitFlipNorm
  cases S i
  · rfl
  · exact hvAdj_flip (maxs i) (n i)

/-- **the fitness indicator depends only on the oriented coordinates** -/
theorem hvFit_oriented (rho : α) (maxs : Nat → Bool) (n1 : Nat → α) (n2 : Option (Nat → α)) (d : Nat) :
    hvFit rho maxs n1 n2 d =
      hvFit rho (fun _ => false) (fun i => hvAdj (maxs i) (n1 i)) (n2.map fun f i => hvAdj (maxs i) (f i)) d := by
  induction d generalizing n2 with
  | zero => rfl
  | succ d ih =>
    cases n2 with
    | none =>
      simp only [Option.map_none, hvFit, ih none, hvAdj_false]
    | some f =>
      simp only [Option.map_some, Option.map_none, hvFit, ih none, ih (some f), hvAdj_false]

/-- **C10 for IBEA's fitness**: mirror any set of objectives and declare them maximised — the indicator of every pair of
solutions (and of a solution against the reference point) is unchanged -/
theorem hvFit_flip (rho : α) (S maxs : Nat → Bool) (n1 : Nat → α) (n2 : Option (Nat → α)) (d : Nat) :
    hvFit rho (fitFlipDirs S maxs) (fitFlipNorm S n1) (n2.map (fitFlipNorm S)) d = hvFit rho maxs n1 n2 d := by
  rw [hvFit_oriented rho (fitFlipDirs S maxs), hvFit_oriented rho maxs, Option.map_map]
  simp only [Function.comp_def, hvAdj_flipped]

/-- a concrete instance where the orientation matters (2 objectives, the first maximised, `rho = 2`): `hvAdj` mirrors a
solution's maximised coordinate and leaves the reference point `rho` as it is (mirrored it would be `1 - 2 = -1`) -/
example : hvFit (2 : Rat) (fun i => i == 0) (fun i => if i = 0 then 3/4 else 1/4) (some fun i => if i = 0 then 1/4 else 3/4) 2 = 3/8 := by
  decide +kernel

end Platypus
