import PlatypusModel.Model.UF
import PlatypusModel.Props.C18
set_option linter.unusedSectionVars false
/-
C18, CEC 2009 part — no input with `x₁ ≥ 0` evaluates below the published Pareto front of UF1–UF4 and UF7
(reference implementations of `Model/UF.lean`, compared with platypus/problems.py on every run):
UF1–3: `f₂ ≥ 1 - √f₁`; UF4: `f₂ ≥ 1 - f₁²`; UF7: `f₂ ≥ 1 - f₁`.  UF1–4 assume `UFOk` besides `TrigOK` (UF1–3 take `o` only to
reach `sqrt_mono`, which is about `t`); no instance of `UFOk` is constructed.
-/
namespace Platypus.C18

variable {α : Type} [Field α] [LinearOrder α] [IsStrictOrderedRing α]

/-- what the proofs use about the functions besides `TrigOK` -/
structure UFOk (t : Trig α) (o : WOps α) : Prop where
  sqrt_mono : ∀ a b : α, 0 ≤ a → a ≤ b → t.sqrt a ≤ t.sqrt b
  exp_pos : ∀ x : α, 0 < t.exp x
  abs_nonneg : ∀ x : α, 0 ≤ o.abs x

theorem abs_prodL_le_one (l : List α) (hl : ∀ v ∈ l, |v| ≤ 1) : |prodL l| ≤ 1 :=
  prodL_eq_prod l ▸ List.prod_induction (|·| ≤ 1) (fun a b ha hb => (abs_mul a b).trans_le (mul_le_one₀ ha (abs_nonneg b) hb))
    abs_one.le hl

/-- every front below has this form: `f₁ = x₁ + A`, `f₂ = 1 - s x₁ + B`, `s` being `√·`, `·²` or the identity;
the two objectives of `ufN t x` unify with `xat x 1 + A` and `1 - s (xat x 1) + B` by `rfl` -/
theorem front_shape (s : α → α) {x1 A B : α} (hs : ∀ b, x1 ≤ b → s x1 ≤ s b) (hA : 0 ≤ A) (hB : 0 ≤ B) :
    1 - s (x1 + A) ≤ 1 - s x1 + B :=
  le_add_of_le_of_nonneg (sub_le_sub_left (hs _ (le_add_of_nonneg_right hA)) 1) hB

theorem uf_lengths (t : Trig α) (o : WOps α) (x : List α) :
    (uf1 t x).length = 2 ∧ (uf2 t x).length = 2 ∧ (uf3 t x).length = 2 ∧ (uf4 t o x).length = 2 ∧
    (uf5 t o x).length = 2 ∧ (uf6 t o x).length = 2 ∧ (uf7 t x).length = 2 ∧
    (uf8 t x).length = 3 ∧ (uf9 t o x).length = 3 ∧ (uf10 t x).length = 3 := by
  refine ⟨rfl, rfl, rfl, rfl, rfl, rfl, rfl, rfl, rfl, rfl⟩

theorem meanTwice_nonneg (t : Trig α) (h : TrigOK t) (J : List Nat) (term : Nat → α) (hterm : ∀ j, 0 ≤ term j) :
    0 ≤ meanTwice t J term :=
  div_nonneg (mul_nonneg (h.ofNat_nonneg 2) (sumL_map_nonneg J term hterm)) (h.ofNat_nonneg _)

theorem rastLike_nonneg (t : Trig α) (h : TrigOK t) (J : List Nat) (y : Nat → α) : 0 ≤ rastLike t J y := by
  rw [rastLike, sub_add_eq_add_sub, add_sub_assoc]
  exact add_nonneg (mul_nonneg (h.ofNat_nonneg 4) (sumL_map_nonneg J _ fun j => mul_self_nonneg (y j)))
    (sub_nonneg.2 (mul_le_of_le_one_right (h.ofNat_nonneg 2) (le_of_abs_le (abs_prodL_le_one _
      (List.forall_mem_map.2 fun _ _ => h.abs_cos_le_one _)))))

theorem meanTwice_sq_nonneg (t : Trig α) (h : TrigOK t) (J : List Nat) (y : Nat → α) :
    0 ≤ meanTwice t J fun j => y j * y j :=
  meanTwice_nonneg t h J _ fun _ => mul_self_nonneg _

theorem uf1_front (t : Trig α) (o : WOps α) (h : TrigOK t) (hu : UFOk t o) (x : List α) (hx : 0 ≤ xat x 1) :
    1 - t.sqrt ((uf1 t x).getD 0 0) ≤ (uf1 t x).getD 1 0 :=
  front_shape t.sqrt (fun b => hu.sqrt_mono _ b hx) (meanTwice_sq_nonneg t h _ _) (meanTwice_sq_nonneg t h _ _)

theorem uf2_front (t : Trig α) (o : WOps α) (h : TrigOK t) (hu : UFOk t o) (x : List α) (hx : 0 ≤ xat x 1) :
    1 - t.sqrt ((uf2 t x).getD 0 0) ≤ (uf2 t x).getD 1 0 :=
  front_shape t.sqrt (fun b => hu.sqrt_mono _ b hx) (meanTwice_sq_nonneg t h _ _) (meanTwice_sq_nonneg t h _ _)

theorem uf3_front (t : Trig α) (o : WOps α) (h : TrigOK t) (hu : UFOk t o) (x : List α) (hx : 0 ≤ xat x 1) :
    1 - t.sqrt ((uf3 t x).getD 0 0) ≤ (uf3 t x).getD 1 0 :=
  have hJ : ∀ J y, 0 ≤ t.ofNat 2 / t.ofNat (List.length J) * rastLike t J y := fun J y =>
    mul_nonneg (div_nonneg (h.ofNat_nonneg 2) (h.ofNat_nonneg _)) (rastLike_nonneg t h J y)
  front_shape t.sqrt (fun b => hu.sqrt_mono _ b hx) (hJ _ _) (hJ _ _)

theorem uf4_front (t : Trig α) (o : WOps α) (h : TrigOK t) (hu : UFOk t o) (x : List α) (hx : 0 ≤ xat x 1) :
    1 - (uf4 t o x).getD 0 0 * (uf4 t o x).getD 0 0 ≤ (uf4 t o x).getD 1 0 :=
  have hterm : ∀ a, 0 ≤ o.abs a / (1 + t.exp (t.ofNat 2 * o.abs a)) :=
    fun _ => div_nonneg (hu.abs_nonneg _) (add_pos zero_lt_one (hu.exp_pos _)).le
  front_shape (fun v => v * v) (fun _ => mul_self_le_mul_self hx) (meanTwice_nonneg t h _ _ fun _ => hterm _)
    (meanTwice_nonneg t h _ _ fun _ => hterm _)

theorem uf7_front (t : Trig α) (h : TrigOK t) (x : List α) :
    1 - (uf7 t x).getD 0 0 ≤ (uf7 t x).getD 1 0 :=
  front_shape id (fun _ hb => hb) (meanTwice_sq_nonneg t h _ _) (meanTwice_sq_nonneg t h _ _)

end Platypus.C18
