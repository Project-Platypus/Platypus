import PlatypusModel.Props.C05Fix
/-!
C05 — the archive theorems of `Props/C05.lean` are about the ε-archive built with `epsCompare`; the code runs
`epsCompareP`.  In exact arithmetic the two agree on well-formed solutions (`epsCompareP_eq`), so they build the same
archive from every history of such solutions (`epsArchiveOf_P_eq`), and the theorems carry over.
-/
namespace Platypus

section generic
variable {σ : Type}

/-- two comparators that agree on all pairs of offered solutions build the same ε-archive (contents and counter) -/
theorem epsArchiveOf_congr (cmp cmp' : σ → σ → Int) (same : σ → σ → Bool) (xs : List σ)
    (h : ∀ x ∈ xs, ∀ y ∈ xs, cmp x y = cmp' x y) :
    epsArchiveOf cmp same xs = epsArchiveOf cmp' same xs := by
  induction xs using List.reverseRecOn with
  | nil => rfl
  | append_singleton pre s ih =>
    rw [epsArchiveOf_append_singleton, epsArchiveOf_append_singleton,
      ← ih fun x hx y hy => h x (List.mem_append_left _ hx) y (List.mem_append_left _ hy)]
    unfold epsArchiveAdd
    -- the members so far were offered in `pre`, so the comparators agree on `s` against each of them
    rw [epsArchiveOf_contents, archiveAdd_congr cmp cmp' _ s fun m hm =>
      h s (List.mem_append_right _ List.mem_cons_self) m
        (List.mem_append_left _ (archiveOf_members_offered cmp pre m hm))]
end generic

section exact
variable {α : Type} [Field α] [LinearOrder α] [IsStrictOrderedRing α] [FloorRing α]

-- `EpsilonDominance.compare` as the code runs it (Pareto test first inside one box), in exact arithmetic
abbrev epsCmpPE (c : Bool) (dirs : List Bool) (eps : List α) : Sol α → Sol α → Int :=
  epsCompareP flE sqE c dirs eps

/-- for every history of well-formed solutions the archive of `epsCompareP` is the archive of `epsCompare` -/
theorem epsArchiveOf_P_eq (c : Bool) (dirs : List Bool) (eps : List α) (xs : List (Sol α))
    (hwf : ∀ x ∈ xs, WFe dirs eps x) :
    epsArchiveOf (epsCmpPE c dirs eps) (sameBoxE c dirs eps) xs
      = epsArchiveOf (epsCmpE c dirs eps) (sameBoxE c dirs eps) xs :=
  epsArchiveOf_congr _ _ _ xs fun x hx y hy => epsCompareP_eq c dirs eps x y (hwf x hx) (hwf y hy)

/-- at most one solution per box (archive of `epsCompareP`) -/
theorem epsP_one_per_box (c : Bool) (dirs : List Bool) (eps : List α) (xs : List (Sol α))
    (hwf : ∀ x ∈ xs, WFe dirs eps x) :
    (epsArchiveOf (epsCmpPE c dirs eps) (sameBoxE c dirs eps) xs).1.Pairwise
      (fun m n => sameBoxE c dirs eps m n = false) := by
  rw [epsArchiveOf_P_eq c dirs eps xs hwf]
  exact eps_one_per_box c dirs eps xs hwf

/-- members are mutually incomparable (archive of `epsCompareP`) -/
theorem epsP_members_incomparable (c : Bool) (dirs : List Bool) (eps : List α) (xs : List (Sol α))
    (hwf : ∀ x ∈ xs, WFe dirs eps x) :
    (epsArchiveOf (epsCmpPE c dirs eps) (sameBoxE c dirs eps) xs).1.Pairwise
      (fun m n => epsCmpPE c dirs eps m n = 0 ∧ epsCmpPE c dirs eps n m = 0) := by
  rw [epsArchiveOf_P_eq c dirs eps xs hwf]
  refine (eps_members_incomparable c dirs eps xs hwf).imp_of_mem fun {m n} hm hn hmn => ?_
  have hm' := hwf m (eps_members_offered c dirs eps xs m hm)
  have hn' := hwf n (eps_members_offered c dirs eps xs n hn)
  exact ⟨(epsCompareP_eq c dirs eps m n hm' hn').trans hmn.1,
    (epsCompareP_eq c dirs eps n m hn' hm').trans hmn.2⟩

/-- every solution ever offered is covered by some member (archive of `epsCompareP`) -/
theorem epsP_coverage (c : Bool) (dirs : List Bool) (eps : List α) (xs : List (Sol α))
    (hwf : ∀ x ∈ xs, WFe dirs eps x) :
    ∀ x ∈ xs, ∃ m ∈ (epsArchiveOf (epsCmpPE c dirs eps) (sameBoxE c dirs eps) xs).1,
      Covers c dirs eps m x := by
  rw [epsArchiveOf_P_eq c dirs eps xs hwf]
  exact eps_coverage c dirs eps xs hwf
end exact

end Platypus
