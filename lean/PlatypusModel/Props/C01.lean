import PlatypusModel.Model.Machine
import Batteries.Data.List.Basic
/-!
# C01 — every exposed solution carries the objectives of its own decision variables
# C07 — the user's function is only ever called with in-domain arguments

For every world (declared types + a deterministic problem function): every event of a trace that `accept` accepts satisfies
the two properties (`accept_ok`; C01 and C07 are its projections).  That the trace of a real run is accepted is not proved:
it is tested on every run of the check.
-/
namespace Platypus

/-- the statement of C01 for one exposed solution -/
def Consistent (w : World) (s : Snap) : Prop :=
  s.evaluated = true ∧ s.hasFeasible = true ∧ s.record = w.call s.vals

def KnownOk (w : World) (k : Known) : Prop := ∀ p ∈ k, Consistent w p.2

theorem KnownOk.get {w : World} {k : Known} (hk : KnownOk w k) {i : Nat} {s : Snap} (h : k.get i = some s) :
    Consistent w s := by
  obtain ⟨p, hp, rfl⟩ := Option.map_eq_some_iff.mp h
  exact hk p (List.mem_of_find?_eq_some hp)

theorem knownOk_set {w : World} {k : Known} {s : Snap} (hk : KnownOk w k) (hs : Consistent w s) :
    KnownOk w (k.set s) := by
  intro p hp
  rcases List.mem_cons.mp hp with rfl | hp
  · exact hs
  · exact hk p (List.mem_filter.mp hp).1

theorem consistent_of_copy (w : World) (k : Known) (s : Snap) (hk : KnownOk w k)
    (h : k.hasCopyOf s = true) : Consistent w s := by
  obtain ⟨p, hp, hs⟩ := List.any_eq_true.mp h
  obtain ⟨hvals, hrec, hfeas, hev⟩ := of_decide_eq_true hs
  obtain ⟨pev, pfeas, prec⟩ := hk p hp
  exact ⟨hev ▸ pev, hfeas ▸ pfeas, by rw [← hrec, ← hvals]; exact prec⟩

theorem checkMember_ok (w : World) (k k' : Known) (b a : Snap) (hk : KnownOk w k)
    (h : checkMember w k b a = .ok k') :
    KnownOk w k' ∧ Consistent w a ∧ (b.evaluated = false → validVals w.types b.vals = true ∧ b.vals = a.vals) ∧
      (b.evaluated = true → a = b) := by
  revert h
  fun_cases checkMember w k b a with
  | case2 _ hev _ hc =>
    -- evaluated, not remembered: a copy of a remembered solution
    intro h; cases h
    obtain ⟨rfl, hcopy⟩ := hc
    have hb := consistent_of_copy w k b hk hcopy
    exact ⟨knownOk_set hk hb, hb, fun he => absurd hev (Bool.eq_false_iff.mp he), fun _ => rfl⟩
  | case4 _ hev r hg hc =>
    -- evaluated, remembered: returned untouched
    intro h; cases h
    obtain ⟨rfl, rfl⟩ := hc
    exact ⟨hk, hk.get hg, fun he => absurd hev (Bool.eq_false_iff.mp he), fun _ => rfl⟩
  | case10 _ hev haev hval hvars hrec =>
    -- not evaluated before: every guard passed
    intro h; cases h
    have ha : Consistent w a :=
      ⟨by simpa using haev, by simpa using (not_or.mp hrec).2, Decidable.not_not.mp (not_or.mp hrec).1⟩
    exact ⟨knownOk_set hk ha, ha, fun _ => ⟨by simpa using hval, Decidable.not_not.mp hvars⟩, fun he => absurd he hev⟩
  | case1 | case3 | case5 | case6 | case7 | case8 | case9 => exact nofun

/-- what C01 and C07 say of one event of a trace -/
def EventOk (w : World) : Event → Prop
  | .batch b a => (∀ s ∈ a, Consistent w s) ∧ ∀ m ∈ b, m.evaluated = false → validVals w.types m.vals = true
  | .step ex => ∀ s ∈ ex, Consistent w s

theorem checkBatch_ok {w : World} {b a : List Snap} {k k' : Known} (hk : KnownOk w k)
    (h : checkBatch w b a k = .ok k') : KnownOk w k' ∧ EventOk w (.batch b a) := by
  fun_induction checkBatch w b a k with
  | case1 k => cases h; exact ⟨hk, List.forall_mem_nil _, List.forall_mem_nil _⟩   -- both lists empty
  | case3 x xs y ys k k1 hm ih =>   -- `checkMember` accepts the heads
    obtain ⟨hk1, hy, hval, _⟩ := checkMember_ok w k k1 x y hk hm
    obtain ⟨hk', hall, hvals⟩ := ih hk1 h
    exact ⟨hk', List.forall_mem_cons.mpr ⟨hy, hall⟩, List.forall_mem_cons.mpr ⟨fun hev => (hval hev).1, hvals⟩⟩
  | case2 | case4 => cases h   -- the heads are rejected; the lengths differ

theorem checkExposed_ok {w : World} {k : Known} {ex : List Snap} (hk : KnownOk w k)
    (h : checkExposed k ex = .ok ()) : EventOk w (.step ex) := by
  fun_induction checkExposed k ex with
  | case1 => exact List.forall_mem_nil _   -- nothing exposed
  | case2 s rest _ hc ih =>   -- not remembered: a copy of a remembered solution
    exact List.forall_mem_cons.mpr ⟨consistent_of_copy w k s hk hc.2, ih h⟩
  | case6 s rest r hg _ hrs ih =>   -- remembered as `r`, and equal to it
    exact List.forall_mem_cons.mpr ⟨Decidable.not_not.mp hrs ▸ hk.get hg, ih h⟩
  | case3 | case4 | case5 => cases h   -- the rejections: unknown, unevaluated, stale

theorem acceptFrom_ok {w : World} {evs : List Event} {k k' : Known} (hk : KnownOk w k)
    (h : acceptFrom w evs k = .ok k') : ∀ e ∈ evs, EventOk w e := by
  fun_induction acceptFrom w evs k with
  | case1 => exact List.forall_mem_nil _   -- no event
  | case3 b a rest k k1 hb ih =>   -- an accepted batch
    obtain ⟨hk1, hba⟩ := checkBatch_ok hk hb
    exact List.forall_mem_cons.mpr ⟨hba, ih hk1 h⟩
  | case5 ex rest k _ hex ih =>   -- an accepted step boundary
    exact List.forall_mem_cons.mpr ⟨checkExposed_ok hk hex, ih hk h⟩
  | case2 | case4 => cases h   -- rejected

theorem accept_ok {w : World} {evs : List Event} {k : Known} (h : accept w evs = .ok k) : ∀ e ∈ evs, EventOk w e :=
  acceptFrom_ok (List.forall_mem_nil _) h

/-- **C01**: in every accepted trace, at every step boundary every exposed solution is marked
evaluated and carries exactly the record the problem yields for its own decoded variables -/
theorem C01_invariant (w : World) (evs : List Event) (k : Known) (h : accept w evs = .ok k) :
    ∀ ex, Event.step ex ∈ evs → ∀ s ∈ ex, Consistent w s :=
  fun _ hm => accept_ok h _ hm

/-- every solution returned by `evaluate_all` in an accepted trace is consistent (whichever evaluator) -/
theorem C01_batches_consistent (w : World) (evs : List Event) (k : Known) (h : accept w evs = .ok k) :
    ∀ b a, Event.batch b a ∈ evs → ∀ s ∈ a, Consistent w s :=
  fun _ _ hm => (accept_ok h _ hm).1

/-- **C07**: in every accepted trace every argument submitted to the user's function is valid for the
declared types -/
theorem C07_invariant (w : World) (evs : List Event) (k : Known) (h : accept w evs = .ok k) :
    ∀ b a, Event.batch b a ∈ evs → ∀ m ∈ b, m.evaluated = false → validVals w.types m.vals = true :=
  fun _ _ hm => (accept_ok h _ hm).2

/-- the machine's `evaluate_all` makes every unevaluated member consistent, leaves evaluated members and all
variables untouched, returns one result per member in order -/
theorem evaluateAll_spec (w : World) (batch : List Snap) :
    List.Forall₂ (fun b a => a.id = b.id ∧ a.vals = b.vals ∧ a.evaluated = true ∧
      (b.evaluated = true → a = b) ∧ (b.evaluated = false → Consistent w a)) batch (evaluateAll w batch) := by
  induction batch with
  | nil => exact List.Forall₂.nil
  | cons s rest ih =>
    refine List.Forall₂.cons ?_ ih
    cases he : s.evaluated
    · simp [he, Consistent]
    · simp [he]

/-! non-vacuity: a batch of two and the exposure of both: accepted.  The first exposed with its variable changed afterwards:
rejected as stale (though still `Consistent`: this `call` looks only at the number of variables).  8 submitted for a variable
declared `0..7`: rejected. -/
example :
    let w : World := { types := [.int 0 7], call := fun v => { objs := [v.length], cons := [], cv := 0, feasible := true } }
    let s0 : Snap := { id := 0, vals := [.int 3], record := ⟨[], [], 0, false⟩, hasFeasible := false, evaluated := false }
    let s1 : Snap := { id := 1, vals := [.int 7], record := ⟨[], [], 0, false⟩, hasFeasible := false, evaluated := false }
    let a := evaluateAll w [s0, s1]
    (accept w [.batch [s0, s1] a, .step a]).toBool = true ∧
    (accept w [.batch [s0, s1] a, .step [{ (a.getD 0 s0) with vals := [.int 4] }]]).toBool = false ∧
    (accept w [.batch [{ s0 with vals := [.int 8] }] (evaluateAll w [{ s0 with vals := [.int 8] }])]).toBool = false := by
  decide

end Platypus
