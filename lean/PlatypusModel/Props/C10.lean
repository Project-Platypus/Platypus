import PlatypusModel.Model.Epsilon
import PlatypusModel.Model.Sorting
import PlatypusModel.Props.C03
set_option linter.unusedSectionVars false
/-!
# C10 — maximising an objective is equivalent to minimising its negation (comparisons, archives, ranks)

`S` marks the flipped objectives: their values are negated and their directions toggled.  What only looks at
direction-adjusted values is unchanged, for every scalar type whose negation is an involution: Pareto comparison,
ε-box comparison and `same_box`, the Pareto archive.  Fronts and ranks commute with every map that preserves comparisons
and identities; the flip is such a map by `paretoCompare_flip`, an instance that is not written out.  (The indicator
clauses are in `C10Ind.lean`.)
-/
namespace Platypus

variable {α : Type}

-- `zipWith` cuts both to the length of `S`, hence `hS : S.length = dirs.length` in every statement: no direction is lost,
-- and what is cut off an objective list lies beyond the directions, where no comparison reads.
def flipDirs (S dirs : List Bool) : List Bool := List.zipWith xor S dirs
def flipObjs [Neg α] (S : List Bool) (xs : List α) : List α := List.zipWith (fun f x => if f then -x else x) S xs
def flipSol [Neg α] (S : List Bool) (a : Sol α) : Sol α := { a with objs := flipObjs S a.objs }

section
variable [LT α] [DecidableLT α] [BEq α] [Neg α] [OfNat α 0]

-- uses `Neg` alone of the section's five instances (hence the linter option above)
/-- the direction-adjusted value does not change -/
theorem adj_flip (hneg : ∀ x : α, - -x = x) (f d : Bool) (x : α) :
    adj (xor f d) (if f then -x else x) = adj d x := by
  cases f <;> cases d <;> simp [adj, hneg]

theorem scan_flip (hneg : ∀ x : α, - -x = x) (S dirs : List Bool) (xs ys : List α)
    (hS : S.length = dirs.length) (d1 d2 : Bool) :
    scan (flipDirs S dirs) (flipObjs S xs) (flipObjs S ys) d1 d2 = scan dirs xs ys d1 d2 := by
  unfold flipDirs flipObjs
  induction S generalizing dirs xs ys d1 d2 with
  | nil =>
    obtain rfl := List.length_eq_zero_iff.mp hS.symm
    rfl
  | cons f S ih =>
    obtain _ | ⟨d, dirs⟩ := dirs
    · cases hS
    obtain _ | ⟨x, xs⟩ := xs
    · rfl
    obtain _ | ⟨y, ys⟩ := ys
    · rfl
    simp only [List.zipWith_cons_cons, scan, adj_flip hneg, ih dirs xs ys (Nat.succ.inj hS)]

theorem paretoCompare_flip (hneg : ∀ x : α, - -x = x) (c : Bool) (S dirs : List Bool)
    (hS : S.length = dirs.length) (a b : Sol α) :
    paretoCompare c (flipDirs S dirs) (flipSol S a) (flipSol S b) = paretoCompare c dirs a b := by
  simp only [paretoCompare, flipSol, scan_flip hneg S dirs _ _ hS]

set_option linter.unusedVariables false in -- `hx`, `hy` not needed (`scan_flip`)
theorem scan_flip_invariant (hneg : ∀ x : α, - -x = x) (S dirs : List Bool) (xs ys : List α)
    (hS : S.length = dirs.length) (hx : xs.length = dirs.length) (hy : ys.length = dirs.length) (d1 d2 : Bool) :
    scan (flipDirs S dirs) (flipObjs S xs) (flipObjs S ys) d1 d2 = scan dirs xs ys d1 d2 :=
  scan_flip hneg S dirs xs ys hS d1 d2

set_option linter.unusedVariables false in -- `ha`, `hb` not needed (`paretoCompare_flip`)
/-- every Pareto comparison is unchanged -/
theorem pareto_flip_invariant (hneg : ∀ x : α, - -x = x) (c : Bool) (S dirs : List Bool) (a b : Sol α)
    (hS : S.length = dirs.length) (ha : a.objs.length = dirs.length) (hb : b.objs.length = dirs.length) :
    paretoCompare c (flipDirs S dirs) (flipSol S a) (flipSol S b) = paretoCompare c dirs a b :=
  paretoCompare_flip hneg c S dirs hS a b
end

section
variable [LT α] [DecidableLT α] [BEq α] [Neg α] [OfNat α 0] [Div α]

theorem boxScan_flip (hneg : ∀ x : α, - -x = x) (fl : α → α) (S dirs : List Bool) (eps xs ys : List α)
    (hS : S.length = dirs.length) (d1 d2 : Bool) :
    boxScan fl (flipDirs S dirs) eps (flipObjs S xs) (flipObjs S ys) d1 d2 = boxScan fl dirs eps xs ys d1 d2 := by
  unfold flipDirs flipObjs
  induction S generalizing dirs eps xs ys d1 d2 with
  | nil =>
    obtain rfl := List.length_eq_zero_iff.mp hS.symm
    rfl
  | cons f S ih =>
    obtain _ | ⟨d, dirs⟩ := dirs
    · cases hS
    obtain _ | ⟨e, es⟩ := eps
    · rfl
    obtain _ | ⟨x, xs⟩ := xs
    · rfl
    obtain _ | ⟨y, ys⟩ := ys
    · rfl
    simp only [List.zipWith_cons_cons]
    rw [boxScan, boxScan, adj_flip hneg, adj_flip hneg]
    simp only [fun eps => ih dirs eps xs ys (Nat.succ.inj hS)]

end

section
variable [LT α] [DecidableLT α] [BEq α] [Neg α] [OfNat α 0] [Sub α] [Mul α] [Div α] [Add α]

theorem cornerDist_flip (hneg : ∀ x : α, - -x = x) (fl sq : α → α) (S dirs : List Bool) (eps xs : List α)
    (hS : S.length = dirs.length) (acc : α) :
    cornerDist fl sq (flipDirs S dirs) eps (flipObjs S xs) acc = cornerDist fl sq dirs eps xs acc := by
  unfold flipDirs flipObjs
  induction S generalizing dirs eps xs acc with
  | nil =>
    obtain rfl := List.length_eq_zero_iff.mp hS.symm
    rfl
  | cons f S ih =>
    obtain _ | ⟨d, dirs⟩ := dirs
    · cases hS
    obtain _ | ⟨e, es⟩ := eps
    · rfl
    obtain _ | ⟨x, xs⟩ := xs
    · rfl
    simp only [List.zipWith_cons_cons, cornerDist, adj_flip hneg, fun eps => ih dirs eps xs (Nat.succ.inj hS)]

set_option linter.unusedVariables false in -- `ha`, `hb` not needed (`boxScan_flip`, `cornerDist_flip`)
/-- every ε-box comparison and `same_box` answer is unchanged (any floor / square functions) -/
theorem eps_flip_invariant (hneg : ∀ x : α, - -x = x) (fl sq : α → α) (c : Bool) (S dirs : List Bool) (eps : List α)
    (a b : Sol α) (hS : S.length = dirs.length) (ha : a.objs.length = dirs.length) (hb : b.objs.length = dirs.length) :
    epsCompare fl sq c (flipDirs S dirs) eps (flipSol S a) (flipSol S b) = epsCompare fl sq c dirs eps a b ∧
    sameBox fl c (flipDirs S dirs) eps (flipSol S a) (flipSol S b) = sameBox fl c dirs eps a b := by
  constructor
  · simp only [epsCompare, flipSol, boxScan_flip hneg fl S dirs eps _ _ hS, cornerDist_flip hneg fl sq S dirs eps _ hS]
  · simp only [sameBox, flipSol, boxScan_flip hneg fl S dirs eps _ _ hS]

set_option linter.unusedVariables false in -- `ha`, `hb` not needed, as above
/-- the same for the repaired comparator (Pareto verdict first inside one box) -/
theorem epsP_flip_invariant (hneg : ∀ x : α, - -x = x) (fl sq : α → α) (c : Bool) (S dirs : List Bool) (eps : List α)
    (a b : Sol α) (hS : S.length = dirs.length) (ha : a.objs.length = dirs.length) (hb : b.objs.length = dirs.length) :
    epsCompareP fl sq c (flipDirs S dirs) eps (flipSol S a) (flipSol S b) = epsCompareP fl sq c dirs eps a b := by
  have hp := paretoCompare_flip hneg c S dirs hS a b
  simp only [flipSol] at hp
  simp only [epsCompareP, flipSol, boxScan_flip hneg fl S dirs eps _ _ hS, cornerDist_flip hneg fl sq S dirs eps _ hS, hp]
end

variable {σ τ : Type}

theorem removeIds_map (getId : σ → Nat) (getId' : τ → Nat) (g : σ → τ)
    (hid : ∀ a, getId' (g a) = getId a) (front l : List σ) :
    removeIds getId' (front.map g) (l.map g) = (removeIds getId front l).map g := by
  unfold removeIds
  rw [List.filter_map]
  congr 1
  apply List.filter_congr
  intro x _
  simp only [Function.comp_def, List.any_map, hid]

theorem peelFronts_map (cmp : σ → σ → Int) (cmp' : τ → τ → Int) (getId : σ → Nat) (getId' : τ → Nat) (g : σ → τ)
    (hg : ∀ a b, cmp' (g a) (g b) = cmp a b) (hid : ∀ a, getId' (g a) = getId a) (n : Nat) (xs : List σ) :
    peelFronts cmp' getId' n (xs.map g) = (peelFronts cmp getId n xs).map (List.map g) := by
  induction n generalizing xs with
  | zero => simp [peelFronts]
  | succ n ih =>
    cases xs with
    | nil => simp [peelFronts]
    | cons x xs =>
      rw [peelFronts, List.map_cons, peelFronts, ← List.map_cons, archive_map_commutes cmp cmp' g hg,
        removeIds_map getId getId' g hid, ih]
      rfl

/-- non-dominated fronts (hence ranks) commute with a comparison- and identity-preserving map -/
theorem fronts_map_commutes (cmp : σ → σ → Int) (cmp' : τ → τ → Int) (getId : σ → Nat) (getId' : τ → Nat) (g : σ → τ)
    (hg : ∀ a b, cmp' (g a) (g b) = cmp a b) (hid : ∀ a, getId' (g a) = getId a) (xs : List σ) :
    sortFronts cmp' getId' (xs.map g) = (sortFronts cmp getId xs).map (List.map g) := by
  unfold sortFronts
  rw [List.length_map]
  exact peelFronts_map cmp cmp' getId getId' g hg hid _ xs

theorem rank_map_invariant (cmp : σ → σ → Int) (cmp' : τ → τ → Int) (getId : σ → Nat) (getId' : τ → Nat) (g : σ → τ)
    (hg : ∀ a b, cmp' (g a) (g b) = cmp a b) (hid : ∀ a, getId' (g a) = getId a) (xs : List σ) (i : Nat) :
    rankIn getId' (sortFronts cmp' getId' (xs.map g)) i = rankIn getId (sortFronts cmp getId xs) i := by
  rw [fronts_map_commutes cmp cmp' getId getId' g hg hid xs]
  unfold rankIn
  rw [List.findIdx?_map]
  congr 1
  funext fr
  simp only [Function.comp_def, List.any_map, hid]

set_option linter.unusedVariables false in -- `hx` not needed (`paretoCompare_flip`)
/-- the instance the property talks about: Pareto archives of flipped solutions -/
theorem pareto_archive_flip_commutes [LT α] [DecidableLT α] [BEq α] [Neg α] [OfNat α 0]
    (hneg : ∀ x : α, - -x = x) (c : Bool) (S dirs : List Bool) (xs : List (Sol α))
    (hS : S.length = dirs.length) (hx : ∀ x ∈ xs, x.objs.length = dirs.length) :
    (archiveOf (paretoCompare c (flipDirs S dirs)) (xs.map (flipSol S))).map (·.id) =
      (archiveOf (paretoCompare c dirs) xs).map (·.id) := by
  rw [archive_map_commutes _ _ _ (paretoCompare_flip hneg c S dirs hS), List.map_map]
  rfl

end Platypus
