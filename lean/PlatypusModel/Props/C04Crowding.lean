import PlatypusModel.Model.Crowding
import Mathlib.Data.List.Nodup
import Mathlib.Algebra.Field.Rat
import Mathlib.Algebra.Order.Ring.Rat
/-!
# C04 — `crowding_distance` in closed form, member by member

`Model/Crowding.lean` transcribes `crowding_distance` generically (`none` = +infinity); its Float instance is compared
with the implementation bit for bit and its Rat instance with an exact oracle on every run.  The theorems are for fronts
whose objective vectors are pairwise different, so that `unique` removes nothing (fronts with repeats: `crowdingG_eq_map`
only).  That the divisor, last − first value of an objective's order, is the objective's range is not stated.

All that `crowding_distance` does to its table is rewrite values entry by entry (`cdMap`), so the proofs leave the table
at once and reason, for each member, about a fold over `Option α`.
-/
namespace Platypus

section
variable {α : Type}

def cdMap (h : Nat → Option α → Option α) (cds : List (Nat × Option α)) : List (Nat × Option α) :=
  cds.map fun p => (p.1, h p.1 p.2)

theorem cdUpdate_eq_cdMap (cds : List (Nat × Option α)) (j : Nat) (f : Option α → Option α) :
    cdUpdate cds j f = cdMap (fun i v => if i = j then f v else v) cds := by
  unfold cdUpdate cdMap
  apply List.map_congr_left
  rintro ⟨a, b⟩ _
  by_cases h : a = j <;> simp [h]

theorem cdMap_cdMap (h₁ h₂ : Nat → Option α → Option α) (cds : List (Nat × Option α)) :
    cdMap h₂ (cdMap h₁ cds) = cdMap (fun i v => h₂ i (h₁ i v)) cds := by
  simp [cdMap]

theorem cdMap_id (cds : List (Nat × Option α)) : cdMap (fun _ v => v) cds = cds := by
  simp [cdMap]

theorem foldl_eq_cdMap {β : Type} {step : List (Nat × Option α) → β → List (Nat × Option α)}
    (h : β → Nat → Option α → Option α) (hs : ∀ c b, step c b = cdMap (h b) c) (l : List β)
    (cds : List (Nat × Option α)) :
    l.foldl step cds = cdMap (fun i v => l.foldl (fun v b => h b i v) v) cds := by
  induction l generalizing cds with
  | nil => exact (cdMap_id cds).symm
  | cons b l ih =>
    rw [List.foldl_cons, ih, hs, cdMap_cdMap]
    rfl

/-! Mathlib's `List.foldl_fixed'` is `foldl_eq_self` without the membership in the hypothesis, which `foldl_eq_single` needs. -/

theorem foldl_eq_self {β γ : Type} (t : γ → β → γ) (l : List β) (v : γ) (h : ∀ b ∈ l, t v b = v) :
    l.foldl t v = v :=
  List.foldlRecOn (motive := (· = v)) l t rfl fun _ hw b hb => by rw [hw]; exact h b hb

theorem foldl_eq_single {β γ : Type} (t : γ → β → γ) {l : List β} (hnd : l.Nodup) {b₀ : β} (hb : b₀ ∈ l)
    (h : ∀ b, b ≠ b₀ → ∀ v, t v b = v) (v : γ) : l.foldl t v = t v b₀ := by
  induction l with
  | nil => cases hb
  | cons a l ih =>
    rw [List.nodup_cons] at hnd
    rw [List.foldl_cons]
    rcases List.mem_cons.1 hb with rfl | hb
    · exact foldl_eq_self _ _ _ fun b hbl => h b (by rintro rfl; exact hnd.1 hbl) _
    · rw [h a (by rintro rfl; exact hnd.1 hb)]
      exact ih hnd.2 hb

theorem foldl_eq_none {β γ : Type} (t : Option γ → β → Option γ) (hnone : ∀ b, t none b = none) {l : List β} {b₀ : β}
    (hb : b₀ ∈ l) (h : ∀ v, t v b₀ = none) (v : Option γ) : l.foldl t v = none := by
  obtain ⟨l₁, l₂, rfl⟩ := List.append_of_mem hb
  rw [List.foldl_append, List.foldl_cons, h, List.foldl_fixed' hnone]

theorem foldl_eq_some {β γ : Type} (t : Option γ → β → Option γ) (g : γ → β → γ) (l : List β)
    (h : ∀ b ∈ l, ∀ a, t (some a) b = some (g a b)) (a : γ) : l.foldl t (some a) = some (l.foldl g a) := by
  induction l generalizing a with
  | nil => rfl
  | cons b l ih =>
    rw [List.foldl_cons, List.foldl_cons, h b List.mem_cons_self]
    exact ih (fun b hb => h b (List.mem_cons_of_mem _ hb)) _
end

section
variable {σ γ : Type} (l : List σ) (key : σ → Nat) (G : σ → σ → σ → γ → γ)

/-- step `j0` of the model's scan over the interior positions of `l`, seen from the member with key `i`.  The lemmas say
`l[j]? = some s`, not `l[j]`: three bound proofs in one statement are slow to elaborate. -/
def interiorStep (i : Nat) (v : γ) (j0 : Nat) : γ :=
  match l[j0 + 1]?, l[j0 + 1 + 1]?, l[j0 + 1 - 1]? with
  | some s, some nx, some pv => if i = key s then G s nx pv v else v
  | _, _, _ => v

variable {l key}

theorem getElem?_key_iff (hnd : (l.map key).Nodup) {a b : Nat} {x y : σ} (hx : l[a]? = some x) (hy : l[b]? = some y) :
    key x = key y ↔ a = b := by
  obtain ⟨ha, rfl⟩ := List.getElem?_eq_some_iff.1 hx
  obtain ⟨hb, rfl⟩ := List.getElem?_eq_some_iff.1 hy
  rw [← hnd.getElem_inj_iff (i := a) (j := b) (hi := by simpa using ha) (hj := by simpa using hb), List.getElem_map,
    List.getElem_map]

theorem interiorStep_of_ne (hnd : (l.map key).Nodup) {j j0 : Nat} {s : σ} (hs : l[j]? = some s) (hne : j ≠ j0 + 1) (v : γ) :
    interiorStep l key G (key s) v j0 = v := by
  unfold interiorStep
  split
  next s' _ _ hs' _ _ => exact if_neg fun h => hne ((getElem?_key_iff hnd hs hs').1 h)
  next => rfl

theorem foldl_interiorStep_interior (hnd : (l.map key).Nodup) {j0 : Nat} {s nx pv : σ} (hs : l[j0 + 1]? = some s)
    (hnx : l[j0 + 1 + 1]? = some nx) (hpv : l[j0 + 1 - 1]? = some pv) (v : γ) :
    (List.range (l.length - 2)).foldl (interiorStep l key G (key s)) v = G s nx pv v := by
  have hlen := (List.getElem?_eq_some_iff.1 hnx).1
  have hmem : j0 ∈ List.range (l.length - 2) := List.mem_range.2 (Nat.lt_sub_of_add_lt (b := 2) hlen)
  -- every other step leaves the value alone
  rw [foldl_eq_single _ List.nodup_range hmem fun b hne =>
      interiorStep_of_ne G hnd hs fun h => hne (Nat.succ_inj.1 h).symm, interiorStep, hs, hnx, hpv]
  exact if_pos rfl

theorem foldl_interiorStep_end (hnd : (l.map key).Nodup) {j : Nat} {s : σ} (hs : l[j]? = some s)
    (hend : j = 0 ∨ j + 1 = l.length) (v : γ) :
    (List.range (l.length - 2)).foldl (interiorStep l key G (key s)) v = v :=
  foldl_eq_self _ _ _ fun b hb => interiorStep_of_ne G hnd hs (by have := List.mem_range.1 hb; omega) v
end

section
variable {α : Type}

theorem cdAdd_none_left [Add α] (x : Option α) : cdAdd none x = none := by
  cases x <;> rfl

theorem cdAdd_none_right [Add α] (x : Option α) : cdAdd x none = none := by
  cases x <;> rfl

theorem length_sortByObj [LE α] [DecidableLE α] [OfNat α 0] (u : List (Nat × List α)) (k : Nat) :
    (sortByObj u k).length = u.length :=
  List.length_mergeSort _

theorem uniqueG_eq_self [BEq α] [LawfulBEq α] (l : List (Nat × List α)) (seen : List (List α))
    (hp : (l.map (·.2)).Pairwise (· ≠ ·)) (hs : ∀ s ∈ l, s.2 ∉ seen) : uniqueG l seen = l := by
  induction l generalizing seen with
  | nil => rfl
  | cons s rest ih =>
    rw [List.map_cons, List.pairwise_cons] at hp
    have h1 : ¬ seen.any (fun k => k == s.2) = true := fun h => by
      obtain ⟨x, hx, hxs⟩ := List.any_eq_true.1 h
      exact hs s List.mem_cons_self (beq_iff_eq.1 hxs ▸ hx)
    rw [uniqueG, if_neg h1, ih (s.2 :: seen) hp.2]
    intro t ht htm
    rcases List.mem_cons.1 htm with h | h
    · exact hp.1 t.2 (List.mem_map_of_mem ht) h.symm
    · exact hs t (List.mem_cons_of_mem _ ht) h

variable [LT α] [DecidableLT α] [Add α] [Div α]

/-- an interior member's value after one objective: `r` the objective's divisor, `g` the member's neighbour gap -/
def cdContrib (eps r g : α) (v : Option α) : Option α :=
  if r < eps then none else cdAdd v (some (g / r))

theorem cdContrib_none (eps r g : α) : cdContrib eps r g none = none := by
  unfold cdContrib
  split <;> rfl

variable [Sub α]

/-- `crowdingPassG` with the table taken away: what one objective's pass does to the value `v` of member `i`; `key` reads
the objective's value off a member -/
def passVal (eps : α) (sorted : List (Nat × List α)) (key : Nat × List α → α) (i : Nat) (v : Option α) : Option α :=
  match sorted.head?, sorted.getLast? with
  | some first, some last =>
    (List.range (sorted.length - 2)).foldl
      (interiorStep sorted Prod.fst (fun _ nx pv => cdContrib eps (key last - key first) (key nx - key pv)) i)
      (if i = last.1 then none else if i = first.1 then none else v)
  | _, _ => v

section
variable [LE α] [DecidableLE α] [OfNat α 0]

theorem crowdingPassG_eq_cdMap (eps : α) (u : List (Nat × List α)) (k : Nat) (cds : List (Nat × Option α)) :
    crowdingPassG eps u k cds = cdMap (passVal eps (sortByObj u k) (·.2.getD k 0)) cds := by
  unfold crowdingPassG passVal
  dsimp only
  rcases (sortByObj u k).head? with _ | first
  · exact (cdMap_id cds).symm
  rcases (sortByObj u k).getLast? with _ | last
  · exact (cdMap_id cds).symm
  simp only [cdUpdate_eq_cdMap, cdMap_cdMap, cdAdd_none_right]
  refine (foldl_eq_cdMap _ (fun c j0 => ?_) _ _).trans (cdMap_cdMap _ _ _)
  unfold interiorStep
  split
  next s nx pv hs hnx hpv =>
    simp only [hs, hnx, hpv, cdContrib]
    -- `by_cases`, not `split`: the condition stands on both sides of the goal, where `split` is slow to find it
    by_cases h : last.2.getD k 0 - first.2.getD k 0 < eps
    · simp only [h, if_true]
    · simp only [h, if_false]
  next hno =>
    refine (cdMap_id c).symm.trans ?_
    congr 1
    funext i v
    split
    next s nx pv hs hnx hpv => exact absurd hpv (hno s nx pv hs hnx)
    next => rfl
end

variable [OfNat α 0]

/-- `passVal` in closed form, for the member at position `j` of `sorted` -/
def passAt (eps : α) (sorted : List (Nat × List α)) (key : Nat × List α → α) (j : Nat) (v : Option α) : Option α :=
  if j = 0 ∨ j + 1 = sorted.length then none
  else cdContrib eps (((sorted.getLast?).map key).getD 0 - ((sorted.head?).map key).getD 0)
    (((sorted[j + 1]?).map key).getD 0 - ((sorted[j - 1]?).map key).getD 0) v

theorem passAt_none (eps : α) (sorted : List (Nat × List α)) (key : Nat × List α → α) (j : Nat) :
    passAt eps sorted key j none = none := by
  unfold passAt
  split
  · rfl
  · exact cdContrib_none _ _ _

/-- ids are distinct, so the interior scan touches a member once, at its position -/
theorem passVal_getElem? (eps : α) (sorted : List (Nat × List α)) (key : Nat × List α → α)
    (hnd : (sorted.map (·.1)).Nodup) (j : Nat) (s : Nat × List α) (hs : sorted[j]? = some s) (v : Option α) :
    passVal eps sorted key s.1 v = passAt eps sorted key j v := by
  have hj := (List.getElem?_eq_some_iff.1 hs).1
  obtain ⟨first, hf⟩ : ∃ x, sorted[0]? = some x := ⟨_, List.getElem?_eq_getElem (Nat.zero_lt_of_lt hj)⟩
  obtain ⟨last, hl⟩ : ∃ x, sorted[sorted.length - 1]? = some x := ⟨_, List.getElem?_eq_getElem (Nat.sub_one_lt_of_lt hj)⟩
  have hj0 : s.1 = first.1 ↔ j = 0 := getElem?_key_iff hnd hs hf
  have hjl : s.1 = last.1 ↔ j + 1 = sorted.length := (getElem?_key_iff hnd hs hl).trans (by omega)
  unfold passVal passAt
  rw [List.head?_eq_getElem?, List.getLast?_eq_getElem?, hf, hl]
  simp only [Option.map_some, Option.getD_some, hj0, hjl]
  by_cases hend : j = 0 ∨ j + 1 = sorted.length
  · rw [if_pos hend, foldl_interiorStep_end _ hnd hs hend]
    rcases hend with h | h
    · rw [if_pos h, ite_self]
    · rw [if_pos h]
  · obtain ⟨h0, hl'⟩ := not_or.1 hend
    obtain ⟨j0, rfl⟩ := Nat.exists_eq_succ_of_ne_zero h0
    obtain ⟨nx, hnx⟩ : ∃ x, sorted[j0 + 1 + 1]? = some x := ⟨_, List.getElem?_eq_getElem (Nat.lt_of_le_of_ne hj hl')⟩
    obtain ⟨pv, hpv⟩ : ∃ x, sorted[j0 + 1 - 1]? = some x := ⟨_, List.getElem?_eq_getElem (Nat.lt_of_succ_lt hj)⟩
    rw [if_neg hend, foldl_interiorStep_interior _ hnd hs hnx hpv, if_neg hl', if_neg h0, hnx, hpv]
    rfl
end

section
variable {α : Type} [Field α] [LinearOrder α] [IsStrictOrderedRing α]
-- the statements name an ordered field and use its operations and its order only (here and in the last section)
set_option linter.unusedSectionVars false

def objKey (k : Nat) (s : Nat × List α) : α := s.2.getD k 0

/-- the front with positions attached, as `crowdingG` builds it -/
def indexed (front : List (List α)) : List (Nat × List α) := (List.range front.length).zip front

def posIn (u : List (Nat × List α)) (k i : Nat) : Nat := (sortByObj u k).findIdx (fun s => s.1 == i)

/-- (successor − predecessor) / (last − first), in values of objective `k`, of member `i` in that objective's order -/
def neighbourGap (u : List (Nat × List α)) (k i : Nat) : α :=
  let sorted := sortByObj u k
  let j := posIn u k i
  (((sorted[j + 1]?).map (objKey k)).getD 0 - ((sorted[j - 1]?).map (objKey k)).getD 0) /
    (((sorted.getLast?).map (objKey k)).getD 0 - ((sorted.head?).map (objKey k)).getD 0)

/-- the per-objective order is a rearrangement of the members … -/
theorem sortByObj_perm (u : List (Nat × List α)) (k : Nat) : (sortByObj u k).Perm u := by
  unfold sortByObj
  exact List.mergeSort_perm _ _

/-- … that is non-decreasing in that objective -/
theorem sortByObj_sorted (u : List (Nat × List α)) (k : Nat) :
    (sortByObj u k).Pairwise (fun a b => objKey k a ≤ objKey k b) := by
  refine (List.pairwise_mergeSort (fun a b c hab hbc => ?_) (fun a b => ?_) u).imp fun hab => of_decide_eq_true hab
  · exact decide_eq_true (le_trans (of_decide_eq_true hab) (of_decide_eq_true hbc))
  · rw [Bool.or_eq_true, decide_eq_true_eq, decide_eq_true_eq]
    exact le_total _ _
end

section
variable {α : Type}

theorem indexed_fst (front : List (List α)) : (indexed front).map (·.1) = List.range front.length :=
  List.map_fst_zip (by simp)

theorem indexed_snd (front : List (List α)) : (indexed front).map (·.2) = front :=
  List.map_snd_zip (by simp)

theorem indexed_length (front : List (List α)) : (indexed front).length = front.length := by
  simpa using congrArg List.length (indexed_fst front)

theorem mem_indexed (front : List (List α)) {i : Nat} (hi : i < front.length) : ∃ s ∈ indexed front, s.1 = i :=
  List.mem_map.1 (indexed_fst front ▸ List.mem_range.2 hi)

variable [BEq α] [LE α] [DecidableLE α] [LT α] [DecidableLT α] [Add α] [Sub α] [Div α] [OfNat α 0]

/-- `crowding_distance` member by member, for any front (repeats included) and any scalars (doubles included) -/
theorem crowdingG_eq_map (eps : α) (nobjs : Nat) (front : List (List α)) :
    crowdingG eps nobjs front = (List.range front.length).map fun i =>
      if (uniqueG (indexed front) []).length < 3 then
        (uniqueG (indexed front) []).foldl (fun v s => if i = s.1 then none else v) (some 0)
      else (List.range nobjs).foldl
        (fun v k => passVal eps (sortByObj (uniqueG (indexed front) []) k) (·.2.getD k 0) i v) (some 0) := by
  unfold crowdingG
  rw [← indexed, ← indexed_fst, List.map_map]
  dsimp only
  split
  · rw [foldl_eq_cdMap _ (fun c s => cdUpdate_eq_cdMap c s.1 _)]
    simp only [cdMap, List.map_map]
    rfl
  · rw [foldl_eq_cdMap _ (fun c k => crowdingPassG_eq_cdMap eps _ k c)]
    simp only [cdMap, List.map_map]
    rfl
end

section
variable {α : Type} [Field α] [LinearOrder α] [IsStrictOrderedRing α]
set_option linter.unusedSectionVars false

/-- under the ordered field `LawfulBEq α` is slow to find: found once here, not at every use -/
theorem uniqueG_indexed (front : List (List α)) (hd : front.Pairwise (· ≠ ·)) :
    uniqueG (indexed front) [] = indexed front :=
  uniqueG_eq_self _ _ (by rw [indexed_snd]; exact hd) fun _ _ h => nomatch h

theorem posIn_spec (u : List (Nat × List α)) (k i : Nat) (h : ∃ s ∈ u, s.1 = i) :
    ∃ s, (sortByObj u k)[posIn u k i]? = some s ∧ s.1 = i := by
  have hlt : posIn u k i < (sortByObj u k).length := by
    obtain ⟨s, hs, hsi⟩ := h
    exact List.findIdx_lt_length.2 ⟨s, (sortByObj_perm u k).mem_iff.2 hs, by simp [hsi]⟩
  exact ⟨_, List.getElem?_eq_getElem hlt, beq_iff_eq.1 (List.findIdx_getElem (w := hlt))⟩

/-- the value of member `i`: `passAt` at its position in each objective's order, folded over the objectives -/
theorem crowdingG_getElem? (eps : α) (nobjs : Nat) (front : List (List α)) (hd : front.Pairwise (· ≠ ·))
    (hlen : 3 ≤ front.length) (i : Nat) (hi : i < front.length) :
    (crowdingG eps nobjs front)[i]? = some ((List.range nobjs).foldl
      (fun v k => passAt eps (sortByObj (indexed front) k) (objKey k) (posIn (indexed front) k i) v) (some 0)) := by
  rw [crowdingG_eq_map, List.getElem?_map, List.getElem?_range hi, uniqueG_indexed front hd, indexed_length,
    Option.map_some, if_neg (Nat.not_lt.2 hlen)]
  refine congrArg some (congrArg (fun t => List.foldl t (some 0) (List.range nobjs)) ?_)
  funext v k
  obtain ⟨s, hs, rfl⟩ := posIn_spec (indexed front) k i (mem_indexed front hi)
  refine passVal_getElem? eps _ (objKey k) (((sortByObj_perm _ k).map _).nodup_iff.2 ?_) _ s hs v
  rw [indexed_fst]
  exact List.nodup_range

/-- one value per member of the front -/
theorem crowdingG_length (eps : α) (nobjs : Nat) (front : List (List α)) :
    (crowdingG eps nobjs front).length = front.length := by
  rw [crowdingG_eq_map, List.length_map, List.length_range]

/-- fewer than three members, pairwise different: everybody gets +infinity -/
theorem crowdingG_small (eps : α) (nobjs : Nat) (front : List (List α)) (hd : front.Pairwise (· ≠ ·))
    (hlen : front.length < 3) : ∀ v ∈ crowdingG eps nobjs front, v = none := by
  intro v hv
  rw [crowdingG_eq_map, List.mem_map] at hv
  obtain ⟨i, hi, rfl⟩ := hv
  obtain ⟨s, hs, rfl⟩ := mem_indexed front (List.mem_range.1 hi)
  rw [uniqueG_indexed front hd, indexed_length, if_pos hlen]
  exact foldl_eq_none _ (fun _ => ite_self _) hs (fun _ => if_pos rfl) _

/-- at least three members, pairwise different: the first and the last of every objective's order get +infinity -/
theorem crowdingG_extremes (eps : α) (nobjs : Nat) (front : List (List α)) (hd : front.Pairwise (· ≠ ·))
    (hlen : 3 ≤ front.length) (k : Nat) (hk : k < nobjs) (i : Nat) (hi : i < front.length)
    (hext : posIn (indexed front) k i = 0 ∨ posIn (indexed front) k i = front.length - 1) :
    (crowdingG eps nobjs front)[i]? = some none := by
  rw [crowdingG_getElem? eps nobjs front hd hlen i hi,
    foldl_eq_none _ (fun k => passAt_none eps _ _ _) (List.mem_range.2 hk) fun v => ?_]
  exact if_pos (by rw [length_sortByObj, indexed_length]; omega)

/-- a member that is interior in every objective's order gets the sum of its `neighbourGap`s, provided no objective's divisor
(last − first value of its order) is below `eps` -/
theorem crowdingG_interior (eps : α) (nobjs : Nat) (front : List (List α)) (hd : front.Pairwise (· ≠ ·))
    (hlen : 3 ≤ front.length) (i : Nat) (hi : i < front.length)
    (hint : ∀ k, k < nobjs → 0 < posIn (indexed front) k i ∧ posIn (indexed front) k i + 1 < front.length)
    (hrange : ∀ k, k < nobjs →
      ¬ (((sortByObj (indexed front) k).getLast?.map (objKey k)).getD 0 -
         ((sortByObj (indexed front) k).head?.map (objKey k)).getD 0 < eps)) :
    (crowdingG eps nobjs front)[i]? =
      some (some ((List.range nobjs).foldl (fun acc k => acc + neighbourGap (indexed front) k i) 0)) := by
  rw [crowdingG_getElem? eps nobjs front hd hlen i hi, foldl_eq_some _ _ _ fun k hk a => ?_]
  have := hint k (List.mem_range.1 hk)
  unfold passAt cdContrib
  rw [length_sortByObj, indexed_length, if_neg (by omega), if_neg (hrange k (List.mem_range.1 hk))]
  rfl

/-- the collapsed-range rule: if some objective's divisor is below `eps`, every member gets +infinity -/
theorem crowdingG_collapsed (eps : α) (nobjs : Nat) (front : List (List α)) (hd : front.Pairwise (· ≠ ·))
    (hlen : 3 ≤ front.length) (i : Nat) (hi : i < front.length) (k : Nat) (hk : k < nobjs)
    (hcol : ((sortByObj (indexed front) k).getLast?.map (objKey k)).getD 0 -
         ((sortByObj (indexed front) k).head?.map (objKey k)).getD 0 < eps) :
    (crowdingG eps nobjs front)[i]? = some none := by
  rw [crowdingG_getElem? eps nobjs front hd hlen i hi,
    foldl_eq_none _ (fun k => passAt_none eps _ _ _) (List.mem_range.2 hk) fun v => ?_]
  unfold passAt
  split
  · rfl
  · exact if_pos hcol
end

theorem cdg_ex_sort0 :
    sortByObj (α := Rat) [(0, [0, 2]), (1, [1, 1]), (2, [2, 0])] 0 = [(0, [0, 2]), (1, [1, 1]), (2, [2, 0])] :=
  List.mergeSort_of_pairwise (by decide +kernel)

theorem cdg_ex_sort1 :
    sortByObj (α := Rat) [(0, [0, 2]), (1, [1, 1]), (2, [2, 0])] 1 = [(2, [2, 0]), (1, [1, 1]), (0, [0, 2])] := by
  simp [sortByObj, List.mergeSort, List.MergeSort.Internal.splitInTwo]

/-- non-vacuity / sanity: three points on a line over the rationals — the ends get +infinity, the middle one the sum of the
two normalised gaps, (2 − 0)/2 + (2 − 0)/2 = 2 -/
example : crowdingG (α := Rat) (1 / 1000) 2 [[0, 2], [1, 1], [2, 0]] = [none, some 2, none] := by
  have hu : uniqueG (α := Rat) ((List.range 3).zip [[0, 2], [1, 1], [2, 0]]) [] =
      [(0, [0, 2]), (1, [1, 1]), (2, [2, 0])] := by decide
  have hr : List.range 2 = [0, 1] := rfl
  unfold crowdingG
  simp only [List.length_cons, List.length_nil, Nat.zero_add, Nat.reduceAdd, hu, hr, List.foldl_cons, List.foldl_nil]
  simp only [crowdingPassG, cdg_ex_sort0, cdg_ex_sort1]
  -- `+kernel`: `Rat`'s operations are irreducible to `decide`'s own evaluator; the sorts went first because the kernel does
  -- not unfold `mergeSort` (well-founded recursion)
  decide +kernel

end Platypus
