import PlatypusModel.Model.Indicators
import PlatypusModel.Lemmas.Hypervolume
import PlatypusModel.Lemmas.MinMax
-- every theorem takes the classes of the `variable` line whole, used or not
set_option linter.unusedSectionVars false
/-!
# C15 — hypervolume is the exact dominated volume

After normalisation, clipping and inversion every point lies in `[0,1]^d` and "larger is better": the
dominated region is the union of the boxes `[0, p]`.  Its volume is specified by slicing along the last
coordinate (Fubini): `hvRec`.  The imperative slicing algorithm on an array prefix with swaps
(`calcInternal`) is proved equal to it, and `hvRec` to have the properties the statement lists (bounds,
order / duplicate / dominated-point invariance, monotonicity).

Left out: `hvRec` is the volume by definition, no measure appears; and the theorems start from points of the
cube (`InCube`), not from `hypervolume` with its normalisation, nadir filter and inversion.
-/
namespace Platypus

variable {α : Type} [Field α] [LinearOrder α] [IsStrictOrderedRing α]

/-! `hvRec d P` is the volume of `⋃ₚ [0,p]` using the first `d` coordinates, by slicing along coordinate `d-1`:
`hvRec 1 P = max(0, maxₚ p₀)`; `hvRec (d+1) P = Σⱼ (tⱼ − tⱼ₋₁) · hvRec d {p | p_d ≥ tⱼ}` over the distinct heights
`t₁ < … < t_m` of coordinate `d`, with `t₀ = 0`. -/

/-- the slabs above `prev`, `rec` giving the volume of a section: the lowest height `t`, the slab `(prev, t]`,
then the points strictly above `t`.  Every step drops a point, so `pts.length + 1` is fuel enough. -/
def hvSlices (rec : List (List α) → α) (k : Nat) : Nat → List (List α) → α → α
  | 0, _, _ => 0
  | fuel + 1, pts, prev =>
    match pts with
    | [] => 0
    | p :: ps =>
      let t := (ps.map (fun q => q.getD k 0)).foldl min (p.getD k 0)
      (t - prev) * rec (p :: ps) + hvSlices rec k fuel ((p :: ps).filter (fun q => t < q.getD k 0)) t

def hvRec : Nat → List (List α) → α
  | 0, _ => 0
  | 1, pts => (pts.map (fun q => q.getD 0 0)).foldl max 0
  | d + 2, pts => hvSlices (hvRec (d + 1)) (d + 1) (pts.length + 1) pts 0

-- the hypothesis of the stated results; the proofs go through the weaker `InUnit` (first `d` coordinates, read with `getD`)
def InCube (d : Nat) (pts : List (List α)) : Prop :=
  ∀ p ∈ pts, d ≤ p.length ∧ ∀ x ∈ p, 0 ≤ x ∧ x ≤ 1

/-- the `t` of `hvSlices` -/
def minHt (k : Nat) (p : List α) (ps : List (List α)) : α :=
  (ps.map (fun q => q.getD k 0)).foldl min (p.getD k 0)

theorem minHt_le (k : Nat) (p : List α) (ps : List (List α)) : ∀ q ∈ p :: ps, minHt k p ps ≤ q.getD k 0 :=
  fun _ hq => (foldl_min_spec _ _).2 _ (List.mem_map_of_mem (f := fun q => q.getD k 0) hq)

theorem minHt_mem (k : Nat) (p : List α) (ps : List (List α)) : ∃ q ∈ p :: ps, q.getD k 0 = minHt k p ps :=
  List.mem_map.1 (foldl_min_spec _ _).1

theorem minHt_eq (k : Nat) (p : List α) (ps : List (List α)) (t : α) (hle : ∀ q ∈ p :: ps, t ≤ q.getD k 0)
    (hmem : ∃ q ∈ p :: ps, q.getD k 0 = t) : minHt k p ps = t := by
  obtain ⟨q, hq, rfl⟩ := hmem
  obtain ⟨q', hq', he⟩ := minHt_mem k p ps
  exact le_antisymm (minHt_le k p ps q hq) (he ▸ hle q' hq')

theorem hvSlices_nil (rec : List (List α) → α) (k f : Nat) (prev : α) : hvSlices rec k f [] prev = 0 := by
  cases f <;> rfl

theorem hvSlices_cons (rec : List (List α) → α) (k f : Nat) (p : List α) (ps : List (List α)) (prev : α) :
    hvSlices rec k (f + 1) (p :: ps) prev =
      (minHt k p ps - prev) * rec (p :: ps) +
        hvSlices rec k f ((p :: ps).filter (fun q => minHt k p ps < q.getD k 0)) (minHt k p ps) := rfl

theorem filter_minHt_length_lt (k : Nat) (p : List α) (ps : List (List α)) :
    ((p :: ps).filter (fun q => minHt k p ps < q.getD k 0)).length < (p :: ps).length := by
  rw [List.length_filter_lt_length_iff_exists]
  obtain ⟨q, hq, hqe⟩ := minHt_mem k p ps
  exact ⟨q, hq, by rw [hqe]; simp⟩

theorem hvSlices_congr (rec : List (List α) → α) (k : Nat)
    (hrec : ∀ P Q : List (List α), (∀ x, x ∈ P ↔ x ∈ Q) → rec P = rec Q) :
    ∀ {f1 f2 : Nat} {P Q : List (List α)} {prev : α}, P.length < f1 → Q.length < f2 →
      (∀ x, x ∈ P ↔ x ∈ Q) → hvSlices rec k f1 P prev = hvSlices rec k f2 Q prev := by
  intro f1
  induction f1 with
  | zero => intro f2 P Q prev h1; exact absurd h1 (Nat.not_lt_zero _)
  | succ f1 ih =>
    intro f2 P Q prev h1 h2 hm
    rcases P with _ | ⟨p, ps⟩
    · rw [List.eq_nil_iff_forall_not_mem.2 fun x hx => List.not_mem_nil ((hm x).2 hx), hvSlices_nil, hvSlices_nil]
    obtain ⟨q, qs, rfl⟩ := List.exists_cons_of_ne_nil (List.ne_nil_of_mem ((hm p).1 List.mem_cons_self))
    obtain ⟨f2, rfl⟩ := Nat.exists_eq_succ_of_ne_zero (Nat.ne_of_gt (Nat.zero_lt_of_lt h2))
    have ht : minHt k q qs = minHt k p ps :=
      minHt_eq k q qs _ (fun x hx => minHt_le k p ps x ((hm x).2 hx))
        ((minHt_mem k p ps).imp fun x hx => ⟨(hm x).1 hx.1, hx.2⟩)
    rw [hvSlices_cons, hvSlices_cons, hrec _ _ hm, ht]
    congr 1
    apply ih
    · exact Nat.lt_of_lt_of_le (filter_minHt_length_lt k p ps) (Nat.le_of_lt_succ h1)
    · exact Nat.lt_of_lt_of_le (ht ▸ filter_minHt_length_lt k q qs) (Nat.le_of_lt_succ h2)
    · intro x
      simp only [List.mem_filter, hm x]

/-- A step at any level `t` not above the points, not only at the lowest, where `hvSlices` itself steps: below
it the section does not change.  `h0` is for the empty list. -/
theorem hvSlices_step (rec : List (List α) → α) (k : Nat)
    (hrec : ∀ P Q : List (List α), (∀ x, x ∈ P ↔ x ∈ Q) → rec P = rec Q) (h0 : rec [] = 0)
    {f f' : Nat} (P : List (List α)) (prev t : α) (hf : P.length < f)
    (hf' : (P.filter (fun q => t < q.getD k 0)).length < f') (ht : ∀ q ∈ P, t ≤ q.getD k 0) :
    hvSlices rec k f P prev = (t - prev) * rec P + hvSlices rec k f' (P.filter (fun q => t < q.getD k 0)) t := by
  cases P with
  | nil => rw [hvSlices_nil, List.filter_nil, hvSlices_nil, h0, mul_zero, add_zero]
  | cons p ps =>
    obtain ⟨f, rfl⟩ := Nat.exists_eq_succ_of_ne_zero (Nat.ne_of_gt (Nat.zero_lt_of_lt hf))
    rw [hvSlices_cons]
    obtain ⟨q, hq, hqe⟩ := minHt_mem k p ps
    have hlen := Nat.lt_of_lt_of_le (filter_minHt_length_lt k p ps) (Nat.le_of_lt_succ hf)
    rcases (hqe ▸ ht q hq).lt_or_eq with hlt | rfl
    · -- `t` below every point: from `t` on `hvSlices` starts with the slab `(t, minHt]` under the same points
      have hall : (p :: ps).filter (fun q => t < q.getD k 0) = p :: ps :=
        List.filter_eq_self.2 fun x hx => decide_eq_true (lt_of_lt_of_le hlt (minHt_le k p ps x hx))
      rw [hall] at hf' ⊢
      obtain ⟨f', rfl⟩ := Nat.exists_eq_succ_of_ne_zero (Nat.ne_of_gt (Nat.zero_lt_of_lt hf'))
      rw [hvSlices_cons, hvSlices_congr rec k hrec hlen
        (Nat.lt_of_lt_of_le (filter_minHt_length_lt k p ps) (Nat.le_of_lt_succ hf')) (fun _ => Iff.rfl),
        ← add_assoc, ← add_mul, sub_add_sub_cancel']
    · rw [hvSlices_congr rec k hrec hlen hf' (fun _ => Iff.rfl)]

theorem hvSlices_mono (rec : List (List α) → α) (k : Nat)
    (hrec : ∀ P Q : List (List α), (∀ x, x ∈ P ↔ x ∈ Q) → rec P = rec Q) (h0 : rec [] = 0)
    (hmono : ∀ P Q : List (List α), InUnit k P → InUnit k Q → DomBy k P Q → rec P ≤ rec Q)
    {f1 f2 : Nat} (P Q : List (List α)) (prev : α) (h1 : P.length < f1) (h2 : Q.length < f2)
    (hP : InUnit k P) (hQ : InUnit k Q) (hhP : ∀ p ∈ P, prev ≤ p.getD k 0) (hhQ : ∀ q ∈ Q, prev ≤ q.getD k 0)
    (hdom : DomBy (k + 1) P Q) : hvSlices rec k f1 P prev ≤ hvSlices rec k f2 Q prev := by
  induction hn : (Q ++ P).length using Nat.strong_induction_on generalizing f1 f2 P Q prev with
  | _ n ih =>
    rcases Q with _ | ⟨q, qs⟩
    · rw [List.eq_nil_iff_forall_not_mem.2 fun p hp => List.not_mem_nil (hdom p hp).choose_spec.1, hvSlices_nil,
        hvSlices_nil]
    -- both lists take their next step at the same level `t`: the lowest point of the two, which then leaves
    obtain ⟨y, hy, hye⟩ := minHt_mem k q (qs ++ P)
    have hle : ∀ x ∈ q :: qs ++ P, minHt k q (qs ++ P) ≤ x.getD k 0 := minHt_le k q (qs ++ P)
    have hlt : ((q :: qs ++ P).filter _).length < _ := filter_minHt_length_lt k q (qs ++ P)
    generalize minHt k q (qs ++ P) = t at hye hle hlt
    have hpt : prev ≤ t := hye ▸ (List.mem_append.1 hy).elim (hhQ y) (hhP y)
    have hdom' : DomBy (k + 1) (P.filter fun x => t < x.getD k 0) ((q :: qs).filter fun y => t < y.getD k 0) := by
      intro x hx
      obtain ⟨hx1, hx2⟩ := List.mem_filter.1 hx
      obtain ⟨y, hy, hxy⟩ := hdom x hx1
      exact ⟨y, List.mem_filter.2 ⟨hy, decide_eq_true (lt_of_lt_of_le (of_decide_eq_true hx2)
        (hxy k (Nat.lt_succ_self k)))⟩, hxy⟩
    have hrest := ih _ (by rw [← hn, ← List.filter_append]; exact hlt) _ _ t
      (Nat.lt_succ_self _) (Nat.lt_succ_self _) (hP.filter _) (hQ.filter _)
      (fun x hx => le_of_lt (of_decide_eq_true (List.mem_filter.1 hx).2))
      (fun x hx => le_of_lt (of_decide_eq_true (List.mem_filter.1 hx).2)) hdom' rfl
    rw [hvSlices_step rec k hrec h0 (q :: qs) prev t h2 (Nat.lt_succ_self _) fun x hx => hle x (List.mem_append_left _ hx),
      hvSlices_step rec k hrec h0 P prev t h1 (Nat.lt_succ_self _) fun x hx => hle x (List.mem_append_right _ hx)]
    exact add_le_add (mul_le_mul_of_nonneg_left (hmono _ _ hP hQ (hdom.mono (Nat.le_succ k))) (sub_nonneg.2 hpt))
      hrest

theorem hvRec_nil : ∀ d : Nat, hvRec d ([] : List (List α)) = 0
  | 0 => rfl
  | 1 => rfl
  | _ + 2 => rfl

theorem hvRec_succ (k : Nat) (hk : 1 ≤ k) (pts : List (List α)) :
    hvRec (k + 1) pts = hvSlices (hvRec k) k (pts.length + 1) pts 0 := by
  obtain ⟨e, rfl⟩ := Nat.exists_eq_add_of_le hk
  rw [Nat.add_comm 1 e]
  rfl

theorem hvRec_one_le_iff (P : List (List α)) (c : α) : hvRec 1 P ≤ c ↔ 0 ≤ c ∧ ∀ x ∈ P, x.getD 0 0 ≤ c :=
  -- `hvRec 1 P` is `(0 :: P.map _).max?`
  (List.max?_le_iff (List.max?_cons' (x := (0 : α)) (xs := P.map fun q => q.getD 0 0))).trans
    (List.forall_mem_cons.trans (and_congr_right' List.forall_mem_map))

theorem hvRec_one_eq_of_max (P : List (List α)) (x : List α) (hx : x ∈ P) (h0 : 0 ≤ x.getD 0 0)
    (hmax : ∀ y ∈ P, y.getD 0 0 ≤ x.getD 0 0) : hvRec 1 P = x.getD 0 0 :=
  le_antisymm ((hvRec_one_le_iff P _).2 ⟨h0, hmax⟩) (((hvRec_one_le_iff P _).1 le_rfl).2 x hx)

theorem hvRec_one_mono (P Q : List (List α)) (h : DomBy 1 P Q) : hvRec 1 P ≤ hvRec 1 Q :=
  (hvRec_one_le_iff P _).2 ⟨((hvRec_one_le_iff Q _).1 le_rfl).1, fun x hx => by
    obtain ⟨y, hy, hxy⟩ := h x hx
    exact (hxy 0 Nat.zero_lt_one).trans (((hvRec_one_le_iff Q _).1 le_rfl).2 y hy)⟩

theorem hvRec_congr : ∀ (d : Nat) (P Q : List (List α)), (∀ x, x ∈ P ↔ x ∈ Q) → hvRec d P = hvRec d Q
  | 0, _, _, _ => rfl
  | 1, P, Q, h =>
    le_antisymm (hvRec_one_mono P Q (DomBy.of_subset fun x => (h x).1))
      (hvRec_one_mono Q P (DomBy.of_subset fun x => (h x).2))
  | d + 2, _, _, h =>
    hvSlices_congr (hvRec (d + 1)) (d + 1) (hvRec_congr (d + 1)) (Nat.lt_succ_self _) (Nat.lt_succ_self _) h

theorem hvRec_mono_dom : ∀ (d : Nat) (P Q : List (List α)), InUnit d P → InUnit d Q → DomBy d P Q →
    hvRec d P ≤ hvRec d Q
  | 0, _, _, _, _, _ => le_refl _
  | 1, P, Q, _, _, h => hvRec_one_mono P Q h
  | d + 2, P, Q, hP, hQ, h =>
    hvSlices_mono (hvRec (d + 1)) (d + 1) (hvRec_congr (d + 1)) (hvRec_nil (d + 1)) (hvRec_mono_dom (d + 1))
      P Q 0 (Nat.lt_succ_self _) (Nat.lt_succ_self _)
      (hP.mono (Nat.le_succ _)) (hQ.mono (Nat.le_succ _))
      (fun p hp => (hP p hp (d + 1) (Nat.lt_succ_self _)).1)
      (fun p hp => (hQ p hp (d + 1) (Nat.lt_succ_self _)).1) h

theorem hvRec_eq_of_domBy (d : Nat) (P Q : List (List α)) (hP : InUnit d P) (hQ : InUnit d Q)
    (h1 : DomBy d P Q) (h2 : DomBy d Q P) : hvRec d P = hvRec d Q :=
  le_antisymm (hvRec_mono_dom d P Q hP hQ h1) (hvRec_mono_dom d Q P hQ hP h2)

theorem hvRec_unit (d : Nat) (hd : 1 ≤ d) (p : List α) (h : ∀ i, i < d → p.getD i 0 = 1) : hvRec d [p] = 1 := by
  induction d, hd using Nat.le_induction with
  | base => exact (congrArg (max 0) (h 0 Nat.zero_lt_one)).trans (max_eq_right zero_le_one)
  | succ d hd ih =>
    have hm : minHt d p [] = 1 := h d (Nat.lt_succ_self d)
    rw [hvRec_succ d hd, hvSlices_cons, List.eq_nil_of_length_eq_zero (Nat.lt_one_iff.1 (filter_minHt_length_lt d p [])),
      hvSlices_nil, hm, ih fun i hi => h i (Nat.lt_succ_of_lt hi), sub_zero, mul_one, add_zero]

theorem hvRec_nonneg_unit (d : Nat) (P : List (List α)) (h : InUnit d P) : 0 ≤ hvRec d P :=
  hvRec_nil (α := α) d ▸ hvRec_mono_dom d [] P InUnit.nil h DomBy.nil

/-- by monotonicity: every point is dominated by the corner `(1, …, 1)` of the cube -/
theorem hvRec_le_one_unit (d : Nat) (hd : 1 ≤ d) (P : List (List α)) (h : InUnit d P) : hvRec d P ≤ 1 := by
  have hone : ∀ i, i < d → (List.replicate d (1 : α)).getD i 0 = 1 := fun i hi => by
    simp [List.getD_eq_getElem?_getD, hi]
  rw [← hvRec_unit d hd _ hone]
  refine hvRec_mono_dom d P _ h (fun p hp i hi => ?_) (fun p hp => ⟨_, List.mem_singleton_self _, fun i hi => ?_⟩)
  · rw [List.mem_singleton.1 hp, hone i hi]; exact ⟨zero_le_one, le_refl _⟩
  · rw [hone i hi]; exact (h p hp i hi).2

theorem InCube.inUnit {d : Nat} {P : List (List α)} (h : InCube d P) : InUnit d P := by
  intro p hp i hi
  rw [← List.getElem_eq_getD (h := lt_of_lt_of_le hi (h p hp).1)]
  exact (h p hp).2 _ (List.getElem_mem _)

theorem hvRec_nonneg (d : Nat) (pts : List (List α)) (hc : InCube d pts) : 0 ≤ hvRec d pts :=
  hvRec_nonneg_unit d pts hc.inUnit

theorem hvRec_le_one (d : Nat) (hd : 1 ≤ d) (pts : List (List α)) (hc : InCube d pts) : hvRec d pts ≤ 1 :=
  hvRec_le_one_unit d hd pts hc.inUnit

/-- unchanged by reordering the set -/
theorem hvRec_perm (d : Nat) (pts pts' : List (List α)) (hp : pts.Perm pts') : hvRec d pts = hvRec d pts' :=
  hvRec_congr d pts pts' (fun _ => hp.mem_iff)

/-- unchanged by adding a duplicate -/
theorem hvRec_dup (d : Nat) (p : List α) (pts : List (List α)) (hp : p ∈ pts) : hvRec d (p :: pts) = hvRec d pts :=
  hvRec_congr d _ _ (fun _ => List.mem_cons.trans (or_iff_right_of_imp fun h => h ▸ hp))

/-- unchanged by adding a (weakly) dominated point -/
theorem hvRec_dominated (d : Nat) (p q : List α) (pts : List (List α)) (hq : q ∈ pts)
    (hc : InCube d (p :: pts)) (hdom : ∀ i, i < d → p.getD i 0 ≤ q.getD i 0) :
    hvRec d (p :: pts) = hvRec d pts :=
  hvRec_eq_of_domBy d _ _ hc.inUnit (hc.inUnit.sub fun _ => List.mem_cons_of_mem _)
    (fun x hx => (List.mem_cons.1 hx).elim (fun h => ⟨q, hq, h ▸ hdom⟩) fun h => ⟨x, h, fun _ _ => le_refl _⟩)
    (DomBy.of_subset fun _ => List.mem_cons_of_mem _)

/-- never decreases when a solution is added -/
theorem hvRec_mono (d : Nat) (p : List α) (pts : List (List α)) (hc : InCube d (p :: pts)) :
    hvRec d pts ≤ hvRec d (p :: pts) :=
  hvRec_mono_dom d _ _ (hc.inUnit.sub fun _ => List.mem_cons_of_mem _) hc.inUnit
    (DomBy.of_subset fun _ => List.mem_cons_of_mem _)

/-- One round of the main loop on the side of the specification: the next may start from any `P'` that has lost
only points at the level `t` (`reduce_set` leaves some); those that stay contribute a slab of zero width. -/
theorem hvSlices_round (rec : List (List α) → α) (k : Nat)
    (hrec : ∀ P Q : List (List α), (∀ x, x ∈ P ↔ x ∈ Q) → rec P = rec Q) (h0 : rec [] = 0)
    {f f' : Nat} (P P' : List (List α)) (prev t : α) (hf : P.length < f) (hf' : P'.length < f')
    (ht : ∀ q ∈ P, t ≤ q.getD k 0) (hsub : ∀ x ∈ P', x ∈ P) (hkeep : ∀ x ∈ P, x ∈ P' ∨ x.getD k 0 ≤ t) :
    hvSlices rec k f P prev = (t - prev) * rec P + hvSlices rec k f' P' t := by
  rw [hvSlices_step rec k hrec h0 P prev t hf (Nat.lt_succ_self _) ht,
    hvSlices_step rec k hrec h0 P' t t hf' (Nat.lt_succ_self _) (fun q hq => ht q (hsub q hq)),
    sub_self, zero_mul, zero_add]
  congr 1
  refine hvSlices_congr rec k hrec (Nat.lt_succ_self _) (Nat.lt_succ_self _) fun x => ?_
  simp only [List.mem_filter]
  exact ⟨fun ⟨h1, h2⟩ => ⟨(hkeep x h1).resolve_right (not_le.2 (of_decide_eq_true h2)), h2⟩,
    fun ⟨h1, h2⟩ => ⟨hsub x h1, h2⟩⟩

/-- the fuel `calcInternal` gives `filterNondominated` suffices (`filterNondominated_head` with `C = n`) -/
theorem filterNondominated_fuel (n : Nat) : (n - 0) * n + (n - 1) < (n + 1) * (n + 1) + 1 :=
  calc (n - 0) * n + (n - 1) ≤ n * n + n := Nat.add_le_add_left (Nat.sub_le n 1) _
    _ = n * (n + 1) := (Nat.mul_succ n n).symm
    _ ≤ (n + 1) * (n + 1) := Nat.mul_le_mul_right _ (Nat.le_succ n)
    _ < _ := Nat.lt_succ_self _

/-- Nothing is asked of `dist` (the `prev` of `hvSlices`): the loop and `hvSlices` take the next slab from `dist`
to the lowest point alike.  `hrec` is `calcInternal_spec` one objective down. -/
theorem calcInternal_loop_spec (fuelD d : Nat) (hd : 2 ≤ d)
    (hrec : 3 ≤ d → ∀ (arr : Array (Array α)) (m : Nat), m ≤ arr.size → InUnit (d - 1) (pl arr m) →
      ∃ arr', calcInternal fuelD arr m (d - 1) = (arr', hvRec (d - 1) (pl arr m)) ∧ PrefPerm m arr arr')
    (fuel : Nat) (arr : Array (Array α)) (n : Nat) (v dist : α) (hfuel : n < fuel) (hn : n ≤ arr.size)
    (hud : InUnit (d - 1) (pl arr n)) :
    ∃ arr', calcInternal.loop fuelD d fuel arr n v dist =
        (arr', v + hvSlices (hvRec (d - 1)) (d - 1) (n + 1) (pl arr n) dist) ∧ PrefPerm n arr arr' := by
  induction fuel generalizing arr n v dist with
  | zero => exact absurd hfuel (Nat.not_lt_zero _)
  | succ fuel ih =>
    rw [calcInternal.loop.eq_2]
    rcases Nat.eq_zero_or_pos n with rfl | hn0
    · refine ⟨arr, ?_, PrefPerm.refl _ _⟩
      rw [if_neg (lt_irrefl 0), show pl arr 0 = [] from rfl, hvSlices_nil, add_zero]
    rw [if_pos hn0]
    -- `filter_nondominated` keeps a subset that spans the same volume one dimension down
    obtain ⟨arrF, m, heF, hpermF, hmn, hdomF⟩ :=
      filterNondominated_spec (d - 1) ((n + 1) * (n + 1) + 1) arr 0 1 n hn
    have hsubF := hpermF.subset hn hmn
    have hrecval : hvRec (d - 1) (pl arrF m) = hvRec (d - 1) (pl arr n) :=
      hvRec_eq_of_domBy _ _ _ (hud.sub hsubF) hud (DomBy.of_subset hsubF) hdomF
    have hinner : ∃ arrV, (if d < 3 then (arrF, (arrF.getD 0 #[]).getD 0 0)
          else calcInternal fuelD arrF m (d - 1)) = (arrV, hvRec (d - 1) (pl arr n)) ∧ PrefPerm n arrF arrV := by
      by_cases h3 : d < 3
      · -- two objectives: the point at position 0 has the largest first coordinate
        obtain rfl : d = 2 := le_antisymm (Nat.le_of_lt_succ h3) hd
        have hhead := filterNondominated_head 1 n ((n + 1) * (n + 1) + 1) arr 0 1 n Nat.zero_lt_one hn (le_refl _)
          (filterNondominated_fuel n)
          (fun b _ hb => by rw [Nat.lt_one_iff.1 (hb rfl)]; exact hvDominates_irrefl _ _)
        rw [heF] at hhead
        obtain ⟨q, hq, _⟩ := hdomF _ (mem_pl arr 0 n hn0)
        have h0 := mem_pl arrF 0 m (pl_length arrF m ▸ List.length_pos_of_mem hq)
        refine ⟨arrF, ?_, PrefPerm.refl _ _⟩
        rw [if_pos h3, ← hrecval]
        refine congrArg _ ((array_getD_toList _ 0 0).symm.trans (hvRec_one_eq_of_max _ _ h0
          (hud _ (hsubF _ h0) 0 Nat.zero_lt_one).1 fun y hy => ?_).symm)
        obtain ⟨b, hb, rfl⟩ := (mem_pl_iff arrF m y).1 hy
        rw [array_getD_toList, array_getD_toList]
        exact hvDominates_one_false _ _ (hhead b hb)
      · rw [if_neg h3]
        obtain ⟨arrV, he, hperm⟩ := hrec (not_lt.1 h3) arrF m (hmn.trans (hpermF.size_eq ▸ hn)) (hud.sub hsubF)
        exact ⟨arrV, by rw [he, hrecval], hperm.mono hmn⟩
    obtain ⟨arrV, heV, hpermFV⟩ := hinner
    rw [heF]
    dsimp only
    rw [heV]
    dsimp only
    have hpermV : PrefPerm n arr arrV := hpermF.trans hpermFV
    have hnV : n ≤ arrV.size := hpermV.size_eq ▸ hn
    have hmemV : ∀ x, x ∈ pl arrV n ↔ x ∈ pl arr n := fun x => (hpermV.pl_perm hn).mem_iff
    -- the level of this round: the lowest point, which `reduce_set` then removes
    obtain ⟨b, hb, ht, htl⟩ := exists_pyMinList_map (0 : α) (fun i => (arrV.getD i #[]).getD (d - 1) 0)
      (List.ne_nil_of_mem (List.mem_range.2 hn0))
    rw [ht]
    generalize hbt : (arrV.getD b #[]).getD (d - 1) 0 = t at htl
    have hbn : b < n := List.mem_range.1 hb
    have htle : ∀ q ∈ pl arr n, t ≤ q.getD (d - 1) 0 := fun q hq => by
      obtain ⟨i, hi, rfl⟩ := (mem_pl_iff arrV n q).1 ((hmemV q).2 hq)
      rw [array_getD_toList]
      exact htl i (List.mem_range.2 hi)
    obtain ⟨arrR, n', heR, hpermR, hn'n, hkeptR, hprogR⟩ := reduceSet_spec (d - 1) t (n + 1) arrV 0 n hnV
    have hlt : n' < n := hprogR b (Nat.zero_le b) hbn (by omega) (le_of_eq hbt)
    have hsubR : ∀ x ∈ pl arrR n', x ∈ pl arr n := fun x hx => (hmemV x).1 (hpermR.subset hnV hn'n x hx)
    rw [heR]
    dsimp only
    obtain ⟨arr', he', hperm'⟩ := ih arrR n' (v + hvRec (d - 1) (pl arr n) * (t - dist)) t
      (lt_of_lt_of_le hlt (Nat.le_of_lt_succ hfuel)) (hn'n.trans (hpermR.size_eq ▸ hnV)) (hud.sub hsubR)
    refine ⟨arr', ?_, hpermV.trans (hpermR.trans (hperm'.mono hn'n))⟩
    rw [he', hvSlices_round _ _ (hvRec_congr (d - 1)) (hvRec_nil (d - 1)) (pl arr n) (pl arrR n') dist t
      (by rw [pl_length]; exact Nat.lt_succ_self n) (by rw [pl_length]; exact Nat.lt_succ_self n') htle hsubR
      (fun x hx => hkeptR x ((hmemV x).2 hx)), add_assoc, mul_comm]

theorem calcInternal_spec : ∀ (fuelD d : Nat), 2 ≤ d → d ≤ fuelD + 1 →
    ∀ (arr : Array (Array α)) (n : Nat), n ≤ arr.size → InUnit d (pl arr n) →
      ∃ arr', calcInternal fuelD arr n d = (arr', hvRec d (pl arr n)) ∧ PrefPerm n arr arr' := by
  intro fuelD
  induction fuelD with
  | zero => intro d h2 h1; exact absurd (h2.trans h1) (by decide)
  | succ fuelD ih =>
    intro d hd hf arr n hn hu
    obtain ⟨k, rfl⟩ := Nat.exists_eq_add_of_le' (Nat.one_le_of_lt hd)
    rw [calcInternal.eq_2]
    obtain ⟨arr', h1, h2⟩ := calcInternal_loop_spec fuelD (k + 1) hd
      (fun h3 => ih k (Nat.le_of_succ_le_succ h3) (Nat.le_of_succ_le_succ hf))
      (2 * n + 2) arr n 0 0 (by omega) hn (hu.mono (Nat.le_succ k))
    refine ⟨arr', ?_, h2⟩
    rw [h1, zero_add, hvRec_succ k (Nat.le_of_succ_le_succ hd), pl_length, Nat.add_sub_cancel]

/-- **the array algorithm computes the slicing specification** (every number of points, every `d ≥ 2`,
ties and duplicates allowed) -/
theorem calcInternal_eq_hvRec (d : Nat) (hd : 2 ≤ d) (pts : List (List α)) (hc : InCube d pts) (fuel : Nat)
    (hf : d ≤ fuel) :
    (calcInternal fuel ((pts.map List.toArray).toArray) pts.length d).2 = hvRec d pts := by
  have hpl : pl ((pts.map List.toArray).toArray) pts.length = pts := by
    have hcomp : (Array.toList ∘ List.toArray : List α → List α) = id := funext fun _ => rfl
    rw [pl_eq_take _ _ (by simp)]
    simp [hcomp]
  obtain ⟨arr', h1, _⟩ := calcInternal_spec fuel d hd (Nat.le_succ_of_le hf) ((pts.map List.toArray).toArray) pts.length
    (by simp) (by rw [hpl]; exact hc.inUnit)
  rw [h1, hpl]

/-- the two-objective case of the above -/
theorem calcInternal_eq_hvRec_2d (pts : List (List α)) (hc : InCube 2 pts) (fuel : Nat) (hf : 2 ≤ fuel) :
    (calcInternal fuel ((pts.map List.toArray).toArray) pts.length 2).2 = hvRec 2 pts :=
  calcInternal_eq_hvRec 2 (le_refl _) pts hc fuel hf

end Platypus
