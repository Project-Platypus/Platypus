import PlatypusModel.Props.C06Subset
set_option linter.unusedSectionVars false  -- `rouletteScan_range` and `multimethodEvolve_no_index_error` take classes they do not use
/-!
# C06 (Multimethod: adaptive selection among variators)

For every list of variators that each produce valid offspring (`OperValid`, a hypothesis here), every history of `evolve`
calls (`mmHistory`; the model has the single call only), every content of the algorithm's archive / recency list between
the calls (the `counts`) and every draw tape: the selected index always names one of the variators (so
`variators[next_variator]` never fails), the probability list keeps one entry per variator, the call counter is zero or
below the update frequency, the offspring of every call are valid for the declared types and their tag is the index of a
variator of the list (`multimethodEvolve_valid`: the one that made them).
-/
namespace Platypus

section
variable {α : Type} [LE α] [DecidableLE α] [LT α] [DecidableLT α] [BEq α] [Add α]

/-- the cumulative scan answers 0 or a position of the list it scans -/
theorem rouletteScan_range (r : α) (ps : List α) (acc : α) (i : Nat) :
    rouletteScan r ps acc i = 0 ∨ (i ≤ rouletteScan r ps acc i ∧ rouletteScan r ps acc i < i + ps.length) := by
  fun_induction rouletteScan r ps acc i with
  | case1 => exact .inl rfl
  | case2 p rest acc i h => exact .inr ⟨Nat.le_refl i, Nat.lt_add_of_pos_right (Nat.succ_pos _)⟩
  | case3 p rest acc i h ih =>
    rw [List.length_cons, ← Nat.add_assoc, Nat.add_right_comm]
    exact ih.imp_right (And.imp_left Nat.le_of_succ_le)

theorem roulette_lt (zero : α) (total : List α → α) {ps : List α} (hps : 0 < ps.length) (tape : Tape α) :
    Ensures (roulette zero total ps tape) (· < ps.length) :=
  .bind_any fun r _ => .ok <| by
    rcases rouletteScan_range r ps zero 0 with h | h
    · rwa [h]
    · exact Nat.zero_add ps.length ▸ h.2

/-- `roulette` returns an index of its (non-empty) argument, for every draw -/
theorem roulette_in_range (zero : α) (total : List α → α) (ps : List α) (hne : ps ≠ []) (tape tape' : Tape α) (k : Nat)
    (h : roulette zero total ps tape = .ok (k, tape')) : k < ps.length :=
  roulette_lt zero total (List.length_pos_iff.mpr hne) tape k tape' h

/-- the state invariant of a `Multimethod` over `n` variators; the first disjunct of the counter clause is for `freq = 0`,
where every call resets and `lastUpdate < freq` cannot hold -/
def MMInv (n : Nat) (st : MMState α) : Prop :=
  st.next < n ∧ st.probs.length = n ∧ (st.lastUpdate = 0 ∨ st.lastUpdate < st.freq)

/-- `select()` re-establishes the invariant from any state whose probability list has one entry per variator -/
theorem multimethodSelect_inv (zero : α) (total : List α → α) (newProbs : List Nat → List α) (n : Nat) (hn : 0 < n)
    (counts : List Nat) (hc : (newProbs counts).length = n) (st st' : MMState α) (hp : st.probs.length = n)
    (tape tape' : Tape α) (h : multimethodSelect zero total newProbs counts st tape = .ok (st', tape')) :
    MMInv n st' ∧ st'.freq = st.freq := by
  revert st' tape'
  unfold multimethodSelect
  dsimp only  -- the model's `let lu := …` hides its `if` from `split`
  split
  · exact (roulette_lt zero total (hc ▸ hn) tape).bind fun k _ hk => .ok ⟨⟨hc ▸ hk, hc, .inl rfl⟩, rfl⟩
  · exact (roulette_lt zero total (hp ▸ hn) tape).bind fun k _ hk =>
      .ok ⟨⟨hp ▸ hk, hp, .inr (Nat.lt_of_not_le ‹_›)⟩, rfl⟩

/-- the constructor establishes the invariant -/
theorem multimethodInit_inv (zero : α) (total : List α → α) (newProbs : List Nat → List α) (initProbs : Nat → List α)
    (n freq : Nat) (hn : 0 < n) (hi : (initProbs n).length = n) (counts : List Nat) (hc : (newProbs counts).length = n)
    (st : MMState α) (tape tape' : Tape α)
    (h : multimethodInit zero total newProbs initProbs n freq counts tape = .ok (st, tape')) :
    MMInv n st ∧ st.freq = freq :=
  multimethodSelect_inv zero total newProbs n hn counts hc _ st hi tape tape' h

/-- one `evolve` call: valid offspring, tagged with the variator that made them (one of the list), invariant kept -/
theorem multimethodEvolve_valid (zero : α) (total : List α → α) (newProbs : List Nat → List α) (types : List (TypeD α))
    (vs : List (Oper α)) (hvs : ∀ v ∈ vs, OperValid types v) (counts : List Nat) (hc : (newProbs counts).length = vs.length)
    (st st' : MMState α) (hst : MMInv vs.length st) (parents kids : List (OSol α)) (tag : Nat) (tape tape' : Tape α)
    (hp : ∀ p ∈ parents, ValidSol types p)
    (h : multimethodEvolve zero total newProbs vs counts st parents tape = .ok (((kids, tag), st'), tape')) :
    (∀ c ∈ kids, ValidSol types c) ∧ tag = st.next ∧ tag < vs.length ∧ MMInv vs.length st' ∧ st'.freq = st.freq := by
  unfold multimethodEvolve at h
  rw [List.getElem?_eq_getElem hst.1] at h
  refine Ensures.bind (R := fun r => (∀ c ∈ r.1.1, ValidSol types c) ∧ r.1.2 = st.next ∧ r.1.2 < vs.length ∧
      MMInv vs.length r.2 ∧ r.2.freq = st.freq)
    ((hvs _ (List.getElem_mem hst.1)).ensures hp tape) (fun k tape hk => ?_) _ _ h
  exact Ensures.bind
    (fun s t => multimethodSelect_inv zero total newProbs _ (Nat.zero_lt_of_lt hst.1) counts hc st s hst.2.1 tape t)
    fun s _ hs => .ok ⟨hk, rfl, hst.1, hs⟩

/-- with the invariant, `variators[next_variator]` exists: a call fails only if the chosen variator or the tape does -/
theorem multimethodEvolve_no_index_error (zero : α) (total : List α → α) (newProbs : List Nat → List α)
    (vs : List (Oper α)) (counts : List Nat) (st : MMState α) (hst : MMInv vs.length st) (parents : List (OSol α)) (tape : Tape α) :
    ∃ v, vs[st.next]? = some v ∧ multimethodArity vs st = v.arity ∧
      multimethodEvolve zero total newProbs vs counts st parents tape =
        (do let (kids, tape) ← v.evolve parents tape
            let (st', tape) ← multimethodSelect zero total newProbs counts st tape
            pure (((kids, st.next), st'), tape)) := by
  have hlt := hst.1
  have hv := List.getElem?_eq_getElem hlt
  refine ⟨vs[st.next], hv, ?_, ?_⟩
  · rw [multimethodArity, hv]
    rfl
  · rw [multimethodEvolve, hv]

/-- a history of `evolve` calls: what the surrounding algorithm's archive looked like before each call, and the parents -/
def mmHistory (zero : α) (total : List α → α) (newProbs : List Nat → List α) (vs : List (Oper α)) :
    MMState α → List (List Nat × List (OSol α)) → M α (List (List (OSol α) × Nat) × MMState α)
  | st, [] => fun tape => pure (([], st), tape)
  | st, (counts, parents) :: rest => fun tape => do
    let ((out, st'), tape) ← multimethodEvolve zero total newProbs vs counts st parents tape
    let ((outs, st''), tape) ← mmHistory zero total newProbs vs st' rest tape
    pure ((out :: outs, st''), tape)

theorem mmHistory_spec (zero : α) (total : List α → α) (newProbs : List Nat → List α) {types : List (TypeD α)}
    {vs : List (Oper α)} (hvs : ∀ v ∈ vs, OperValid types v) {steps : List (List Nat × List (OSol α))}
    (hsteps : ∀ s ∈ steps, (newProbs s.1).length = vs.length ∧ ∀ p ∈ s.2, ValidSol types p)
    {st : MMState α} (hst : MMInv vs.length st) (tape : Tape α) :
    Ensures (mmHistory zero total newProbs vs st steps tape) fun r =>
      (∀ o ∈ r.1, (∀ c ∈ o.1, ValidSol types c) ∧ o.2 < vs.length) ∧ r.1.length = steps.length ∧
      MMInv vs.length r.2 ∧ r.2.freq = st.freq := by
  induction steps generalizing st tape with
  | nil => exact .ok ⟨nofun, rfl, hst, rfl⟩
  | cons s rest ih =>
    obtain ⟨hs, hrest⟩ := List.forall_mem_cons.mp hsteps
    refine Ensures.bind (fun r t => multimethodEvolve_valid zero total newProbs types vs hvs s.1 hs.1 st r.2 hst s.2
      r.1.1 r.1.2 tape t hs.2) fun r tape e => ?_
    obtain ⟨hkids, -, htag, hinv, hfreq⟩ := e
    exact (ih hrest hinv tape).bind fun q _ hq =>
      .ok ⟨List.forall_mem_cons.mpr ⟨⟨hkids, htag⟩, hq.1⟩, congrArg (· + 1) hq.2.1, hq.2.2.1, hq.2.2.2.trans hfreq⟩

/-- every history from a state that meets the invariant: all offspring of all calls valid and tagged with a variator of the
list, the invariant holds at the end -/
theorem mmHistory_valid (zero : α) (total : List α → α) (newProbs : List Nat → List α) (types : List (TypeD α))
    (vs : List (Oper α)) (hvs : ∀ v ∈ vs, OperValid types v)
    (steps : List (List Nat × List (OSol α)))
    (hsteps : ∀ s ∈ steps, (newProbs s.1).length = vs.length ∧ ∀ p ∈ s.2, ValidSol types p)
    (st st' : MMState α) (hst : MMInv vs.length st) (outs : List (List (OSol α) × Nat)) (tape tape' : Tape α)
    (h : mmHistory zero total newProbs vs st steps tape = .ok ((outs, st'), tape')) :
    (∀ o ∈ outs, (∀ c ∈ o.1, ValidSol types c) ∧ o.2 < vs.length) ∧ outs.length = steps.length ∧
      MMInv vs.length st' ∧ st'.freq = st.freq :=
  mmHistory_spec zero total newProbs hvs hsteps hst tape _ _ h

end

/-- the hypotheses are satisfiable: a concrete two-variator Multimethod state over `Int` meets the invariant, and a roulette
draw on it lands in range -/
example : MMInv 2 ({ next := 1, lastUpdate := 0, freq := 3, probs := [1, 2] } : MMState Int) ∧
    roulette (0 : Int) List.sum [1, 2] [.uniform 0 3 2] = .ok (1, []) := by
  exact ⟨⟨by decide, rfl, Or.inl rfl⟩, rfl⟩

end Platypus
