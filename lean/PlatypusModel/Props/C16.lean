import PlatypusModel.Lemmas.Indicators
-- the statements are made over the one `variable` line below, whether or not a proof uses all of its classes
set_option linter.unusedSectionVars false
/-!
# C16 — GD, IGD, additive ε and spacing: consequences of their definitions

Exact arithmetic: any linearly ordered field, the numeric primitives constrained by `OpsOk` only.  The model functions
are the ones the driver runs at `Float`, bit for bit against the implementation.
-/
namespace Platypus

variable {α : Type} [Field α] [LinearOrder α] [IsStrictOrderedRing α]

set_option linter.unusedVariables false in -- the proof does not need `hd`
theorem gd_nonneg (ops : NumOps α) (h : OpsOk ops) (nobjs : Nat) (d : α) (hd : 0 < d) (ref set : List (ISol α)) (v : α)
    (hv : generationalDistance ops nobjs d ref set = .ok v) : 0 ≤ v := by
  rw [generationalDistance_eq] at hv
  obtain ⟨b, _, rfl⟩ := Except.map_eq_ok hv
  split
  · exact h.inf_pos.le
  · exact meanDist_nonneg h d _ _

set_option linter.unusedVariables false in -- the proof does not need `hd`
theorem igd_nonneg (ops : NumOps α) (h : OpsOk ops) (nobjs : Nat) (d : α) (hd : 0 < d) (ref set : List (ISol α)) (v : α)
    (hv : invertedGenerationalDistance ops nobjs d ref set = .ok v) : 0 ≤ v := by
  rw [invertedGenerationalDistance_eq] at hv
  obtain ⟨b, _, rfl⟩ := Except.map_eq_ok hv
  exact meanDist_nonneg h d _ _

theorem spacing_nonneg (ops : NumOps α) (h : OpsOk ops) (set : List (ISol α)) : 0 ≤ spacing ops set := by
  unfold spacing
  dsimp only
  split
  · exact le_refl _
  · exact h.sqrt_nonneg _

/-- a set without a feasible member: GD and the ε-indicator (`eps_no_feasible`) return `ops.inf` -/
theorem gd_no_feasible (ops : NumOps α) (nobjs : Nat) (d : α) (ref set : List (ISol α))
    (hset : ∀ s ∈ set, isFeasible s = false) (v : α) (hv : generationalDistance ops nobjs d ref set = .ok v) :
    v = ops.inf := by
  rw [generationalDistance_eq] at hv
  obtain ⟨b, _, rfl⟩ := Except.map_eq_ok hv
  rw [normSet_eq_nil b hset]; rfl

theorem eps_no_feasible (ops : NumOps α) (dirs : List Bool) (nobjs : Nat) (ref set : List (ISol α))
    (hset : ∀ s ∈ set, isFeasible s = false) (v : α) (hv : epsilonIndicator ops true dirs nobjs ref set = .ok v) :
    v = ops.inf := by
  rw [epsilonIndicator_eq] at hv
  obtain ⟨b, _, rfl⟩ := Except.map_eq_ok hv
  rw [normSet_eq_nil b hset]; rfl

/-- the reference set against itself: GD is 0, and so is the additive ε (`eps_self_zero`) -/
theorem gd_self_zero (ops : NumOps α) (h : OpsOk ops) (nobjs : Nat) (d : α) (hd : 0 < d) (ref : List (ISol α)) (v : α)
    (hv : generationalDistance ops nobjs d ref ref = .ok v) : v = 0 := by
  rw [generationalDistance_eq] at hv
  obtain ⟨b, hb, rfl⟩ := Except.map_eq_ok hv
  rw [normSet_ref_isEmpty hb]
  exact meanDist_eq_zero h hd fun _ hx => hx

set_option linter.unusedVariables false in -- the proof needs none of `h`, `hdl`, `hn`, `hlen`: the value is `0` whatever the lengths
theorem eps_self_zero (ops : NumOps α) (h : OpsOk ops) (dirs : List Bool) (nobjs : Nat) (ref : List (ISol α)) (v : α)
    (hdl : dirs.length = nobjs) (hn : 0 < nobjs) (hlen : ∀ s ∈ ref, s.objs.length = nobjs)
    (hv : epsilonIndicator ops true dirs nobjs ref ref = .ok v) : v = 0 := by
  rw [epsilonIndicator_eq] at hv
  obtain ⟨b, hb, rfl⟩ := Except.map_eq_ok hv
  rw [normSet_ref_isEmpty hb]
  exact epsVal_self dirs _

/-- making members of the set worse in their declared directions never decreases the additive ε -/
theorem eps_monotone (ops : NumOps α) (dirs : List Bool) (nobjs : Nat) (ref set set' : List (ISol α)) (v v' : α)
    (hlen : set.length = set'.length)
    (hworse : ∀ p ∈ set.zip set', p.1.cv = p.2.cv ∧ p.1.objs.length = p.2.objs.length ∧
      ∀ q ∈ dirs.zip (p.1.objs.zip p.2.objs), if q.1 then q.2.2 ≤ q.2.1 else q.2.1 ≤ q.2.2)
    (hv : epsilonIndicator ops true dirs nobjs ref set = .ok v)
    (hv' : epsilonIndicator ops true dirs nobjs ref set' = .ok v') : v ≤ v' := by
  have hW : List.Forall₂ (Worse dirs) (set.filter isFeasible) (set'.filter isFeasible) :=
    List.rel_filter (fun s s' hw => by simp only [isFeasible, hw.1])
      (List.forall₂_iff_zip.mpr ⟨hlen, fun {a b} hab => hworse (a, b) hab⟩)
  rw [epsilonIndicator_eq] at hv hv'
  obtain ⟨b, hb, rfl⟩ := Except.map_eq_ok hv
  obtain ⟨b', hb', rfl⟩ := Except.map_eq_ok hv'
  cases Except.ok.inj (hb.symm.trans hb')
  have hble := boundsOf_le (refBounds_ok hb).1
  simp only [normSet, List.isEmpty_map, List.isEmpty_iff_length_eq_zero, ← hW.length_eq]
  split
  · exact le_rfl
  · exact epsVal_mono dirs _ _ (hW.imp fun s s' hw r => epsDiff_mono dirs b.1 b.2 r hble s s' hw)

end Platypus
