import PlatypusModel.Model.Parallel
import PlatypusModel.Lemmas.Parallel
/-!
# C12 — parallel evaluation returns results in job order under any completion order

The MPI pool is a transition system; its theorems hold under **every schedule** (every interleaving of worker
steps and master receives), with and without load balancing.  MPI's non-overtaking FIFO delivery per (sender,
receiver) pair is an assumption of the model.  Termination is not proved, only that no schedule gets stuck.
-/
namespace Platypus

variable {τ ρ : Type}

theorem chunks_concat (n : Int) (items : List τ) : (chunks n items).flatten = items := by
  unfold chunks
  split
  · cases items <;> simp
  · exact chunksAux_flatten _ _ _ (Nat.le_refl _)

theorem chunks_sizes (n : Int) (hn : 0 < n) (items : List τ) :
    (∀ c ∈ chunks n items, c.length ≤ n.toNat ∧ c ≠ []) ∧
    (∀ c ∈ (chunks n items).dropLast, c.length = n.toNat) := by
  unfold chunks
  rw [if_neg (by omega)]
  exact chunksAux_sizes _ (by omega) _ _

/-- serial / pool map, with or without progress-log chunking: one result per job, in job order -/
theorem map_evaluator_order (run : τ → ρ) (logFrequency : Option Int) (jobs : List τ) :
    mapEvaluate run logFrequency jobs = jobs.map run := by
  cases logFrequency with
  | none => rfl
  | some n =>
    simp only [mapEvaluate]
    conv_rhs => rw [← chunks_concat n jobs]
    rw [List.map_flatten, List.flatMap_def]

/-- submit / apply evaluators: whatever order the futures complete in (every job completes at least
once, repeats and out-of-range indices are harmless), collecting them in submission order yields
`jobs.map run` -/
theorem futures_evaluator_order (run : τ → ρ) (jobs : List τ) (order : List Nat)
    (hall : ∀ i, i < jobs.length → i ∈ order) :
    collect (completeAll run jobs order) = some (jobs.map run) := by
  have : completeAll run jobs order = jobs.map fun t => some (run t) := by
    apply List.ext_getElem?
    intro i
    rw [completeAll_getElem?, List.getElem?_map]
    exact Option.map_congr fun t ht => if_pos (hall i (List.getElem?_eq_some_iff.mp ht).1)
  rw [collect, this, List.mapM_map]
  exact List.mapM_pure

/-- **for every schedule**: when the master has returned, the results are exactly `tasks.map f`, in
task order -/
theorem mpi_map_correct (f : τ → ρ) (size : Nat) (hsize : 1 ≤ size) (lb : Bool) (tasks : List τ)
    (c : MCfg τ ρ) (hr : Reachable f size lb tasks c) (hd : c.phase = .done) :
    c.results = tasks.map (fun t => some (f t)) := by
  obtain ⟨B, IL, IS⟩ := mpiInv_of_reachable hsize hr
  -- every cell is filled, and `Base` says with what
  have hall : ∀ j, j < tasks.length → ∃ r, c.results[j]? = some (some r) := by
    intro j hj
    cases hlb : lb && decide (tasks.length > size) with
    | true =>
      rcases (IL hlb).phase_ok with ⟨k, hk, _⟩ | ⟨_, hcnt⟩
      · rw [hd] at hk; cases hk
      · exact all_some_of_countP (by rw [hcnt, B.len_res]) j (by rw [B.len_res]; exact hj)
    | false => exact (IS hlb).received j (by rw [hd]; exact hj)
  apply List.ext_getElem?
  intro i
  by_cases hi : i < tasks.length
  · obtain ⟨r, hr⟩ := hall i hi
    obtain ⟨t, ht, hrt⟩ := B.res_valid i r hr
    rw [hr, List.getElem?_map, ht, hrt]; rfl
  · have hi := Nat.le_of_not_lt hi
    rw [List.getElem?_eq_none (B.len_res ▸ hi), List.getElem?_eq_none (by rw [List.length_map]; exact hi)]

/-- no reachable configuration in which the master still waits is stuck: some action is enabled -/
theorem mpi_no_stuck (f : τ → ρ) (size : Nat) (hsize : 1 ≤ size) (lb : Bool) (tasks : List τ)
    (c : MCfg τ ρ) (hr : Reachable f size lb tasks c) (hd : c.phase ≠ .done) :
    ∃ a c', mpiStep f size tasks c a = some c' := by
  obtain ⟨B, IL, IS⟩ := mpiInv_of_reachable hsize hr
  cases hlb : lb && decide (tasks.length > size) with
  | true =>
    -- fewer than `dispatched` results are in, so some dispatched tag is outstanding at a worker
    have L := IL hlb
    rcases L.phase_ok with ⟨k, hk, hkn, hcnt, hdk⟩ | ⟨hdone, _⟩
    · obtain ⟨j, hjd, hjn⟩ := exists_none_of_countP_lt (l := c.results) (d := c.dispatched)
        (by rw [B.len_res]; exact L.d_le)
        (by rw [hcnt, hdk]; exact Nat.lt_min.mpr ⟨hkn, Nat.lt_add_of_pos_left hsize⟩)
      obtain ⟨w, hw⟩ := L.owner j hjd hjn
      rcases mem_outL.mp hw with ⟨t, ht⟩ | ⟨m, hm, _⟩
      · exact ⟨.worker w, worker_enabled B w (List.ne_nil_of_mem ht)⟩
      · cases hob : c.outbox.getD w [] with
        | nil => rw [hob] at hm; cases hm
        | cons m' rest =>
          exact ⟨.master w, _, by
            simp only [mpiStep, hk, hob]
            rfl⟩
    · exact absurd hdone hd
  | false =>
    -- the tag the master waits for is in its worker's inbox or outbox
    have S := IS hlb
    rcases S.phase_ok with ⟨i, hi, hin⟩ | hdone
    · rcases S.pending i (by rw [hi]; exact Nat.le_refl _) hin with ⟨t, ht⟩ | hm
      · exact ⟨.worker (i % size), worker_enabled B (i % size) (List.ne_nil_of_mem ht)⟩
      · obtain ⟨m, rest, hmr⟩ := takeTag_isSome hm
        exact ⟨.master (i % size), _, by
          simp only [mpiStep, hi, hmr, if_true]
          rfl⟩
    · exact absurd hdone hd

/-- a worker never has to run a task before it received the function (the `_error_function` branch is
unreachable) -/
theorem mpi_function_before_tasks (f : τ → ρ) (size : Nat) (hsize : 1 ≤ size) (lb : Bool) (tasks : List τ)
    (c : MCfg τ ρ) (hr : Reachable f size lb tasks c) (w : Nat) (tag : Nat) (t : τ) (rest : List (ToWorker τ))
    (h : c.inbox[w]? = some (.task tag t :: rest)) : c.hasFn.getD w false = true :=
  (mpiInv_of_reachable hsize hr).1.hasFn_of_task (getD_of_getElem? [] h)

/-- every job's result is filed under its own algorithm and problem; within one (algorithm, problem)
the entries are the results of exactly those jobs, in job order: one entry per replicate -/
theorem experiment_filing {κ : Type} (jobs : List (JobResult κ)) (a p : String) :
    (((fileResults jobs).find? (·.1 == a)).bind fun x => (x.2.find? (·.1 == p)).map (·.2)).getD [] =
      (jobs.filter (fun j => j.algorithm == a && j.problem == p)).map (·.result) := by
  -- `filed [] a p ++ l` reduces to `l`, and `fileResults jobs` is `jobs.foldl fileOne []` by definition
  refine Eq.trans ?_ (filed_foldl jobs a p [])
  show _ = filed (fileResults jobs) a p
  -- the statement has a `bind` for `filed`'s inner `getD []`: the same once the outer `find?` is decided
  unfold filed lk
  cases (fileResults jobs).find? (·.1 == a)
  · rfl
  · rfl

end Platypus
