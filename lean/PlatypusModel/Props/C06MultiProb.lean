import PlatypusModel.Model.Operators
import Mathlib.Algebra.Order.Field.Basic
import Mathlib.Algebra.BigOperators.Group.List.Basic
import Mathlib.Algebra.Order.BigOperators.Group.List
set_option linter.unusedSectionVars false  -- `c06m_sum_map_div` takes the order and uses only the field
/-!
# C06 (Multimethod): the adapted probabilities are a probability distribution

Over any ordered field (the rationals, the reals), for the probabilities `counts[i] / sum(counts)` that `select()` installs
and the initial `1 / n`.  On doubles the sum is one up to rounding; the check compares the doubles bit for bit with the
model and judges `|sum - 1| ≤ 1e-9`.
-/

namespace Platypus
section
variable {α : Type} [Field α] [LinearOrder α] [IsStrictOrderedRing α]

theorem c06m_sum_map_div (l : List α) (d : α) : (l.map (· / d)).sum = l.sum / d := by
  induction l with
  | nil => simp
  | cons a l ih => simp [ih, add_div]

/-- the adapted probabilities sum to exactly one, unless every count is zero -/
theorem mmProbs_sum (counts : List Nat) (h : counts.sum ≠ 0) :
    (mmProbs (fun n : Nat => (n : α)) counts).sum = 1 := by
  -- the probabilities are the casts of the counts, each divided; the sum of the casts is the cast of the sum
  have := c06m_sum_map_div (counts.map (Nat.castAddMonoidHom α)) (counts.sum : α)
  rw [List.map_map, ← map_list_sum] at this
  exact this.trans (div_self (Nat.cast_ne_zero.mpr h))

/-- one entry per count, i.e. per variator, each in (0, 1] when every count is at least one (counts start at 1) -/
theorem mmProbs_entries (counts : List Nat) (hpos : ∀ c ∈ counts, 1 ≤ c) :
    (mmProbs (fun n : Nat => (n : α)) counts).length = counts.length ∧
      ∀ p ∈ mmProbs (fun n : Nat => (n : α)) counts, 0 < p ∧ p ≤ 1 := by
  refine ⟨List.length_map _, fun p hp => ?_⟩
  obtain ⟨c, hc, rfl⟩ := List.mem_map.mp hp
  have hcpos : (0 : α) < c := Nat.cast_pos.mpr (hpos c hc)
  have hle : (c : α) ≤ (counts.sum : Nat) := Nat.mono_cast (List.le_sum_of_mem hc)
  have hs := hcpos.trans_le hle
  exact ⟨div_pos hcpos hs, (div_le_one hs).mpr hle⟩

/-- the initial probabilities `1/n` sum to one -/
theorem mmInitProbsG_sum (n : Nat) (hn : n ≠ 0) :
    (mmInitProbsG (1 : α) (fun k : Nat => (k : α)) n).sum = 1 := by
  unfold mmInitProbsG
  rw [List.sum_replicate, nsmul_eq_mul]
  exact mul_one_div_cancel (Nat.cast_ne_zero.mpr hn)
end
end Platypus
