import PlatypusModel.Lemmas.C17Base
import PlatypusModel.Lemmas.GrayAdj
/-!
# C17 — Integer variables round-trip through Gray-coded bits and never leave range

`w = max_value - min_value`; the offset `min_value` is added after `decode` / subtracted before
`encode` by the Python code and plays no role.  All statements are for unbounded `Nat`.
-/
namespace Platypus.C17

/-- integer/binary conversions are mutually inverse, every value and every length -/
theorem bin2int_int2bin (n k : Nat) : bin2int (int2bin n k) = n := Platypus.bin2int_int2bin n k
theorem int2bin_bin2int (bits : List Bool) : int2bin (bin2int bits) bits.length = bits :=
  Platypus.int2bin_bin2int bits

/-- binary/Gray conversions are mutually inverse for every length ≥ 1 (empty list = error branch) -/
theorem gray2bin_bin2gray (bits : List Bool) (h : bits ≠ []) : gray2bin (bin2gray bits) = some bits :=
  Platypus.gray2bin_bin2gray bits h
theorem bin2gray_gray2bin (g : List Bool) (h : g ≠ []) : (gray2bin g).map bin2gray = some g :=
  Platypus.bin2gray_gray2bin g h
theorem gray2bin_nil : gray2bin [] = none := Platypus.gray2bin_nil

theorem encode_length (w v : Nat) (hv : v ≤ w) : (encode w v).length = nbits w :=
  Platypus.encode_length w v hv

/-- encoding any in-range integer and decoding it returns the same integer -/
theorem decode_encode (w v : Nat) (hv : v ≤ w) : decode w (encode w v) = some v :=
  Platypus.decode_encode w v hv

/-- every bit string of the variable's length decodes to a value inside the range -/
theorem decode_in_range (w : Nat) (hw : 1 ≤ w) (bits : List Bool) (hl : bits.length = nbits w) :
    ∃ v, decode w bits = some v ∧ v ≤ w := Platypus.decode_in_range w hw bits hl

/-- every value of the range is produced by at least one bit string -/
theorem decode_surjective (w v : Nat) (hv : v ≤ w) :
    ∃ bits, bits.length = nbits w ∧ decode w bits = some v := Platypus.decode_surjective w v hv

/-- consecutive integers have encodings that differ in exactly one bit -/
theorem gray_adjacent (w v : Nat) (hv : v < w) : hamming (encode w v) (encode w (v + 1)) = 1 :=
  Platypus.gray_adjacent w v hv

example : decode 5 (encode 5 5) = some 5 := decode_encode 5 5 (by decide)
example : nbits 5 = 3 ∧ decode 5 [true, false, false] = some 2 ∧
    decode 5 [true, false, true] = some 1 := by decide
example : hamming (encode 5 3) (encode 5 4) = 1 := gray_adjacent 5 3 (by decide)

end Platypus.C17
