import PlatypusModel.Props.C14
import PlatypusModel.Lemmas.MinMax
import Mathlib.Algebra.Order.Floor.Defs
import Mathlib.Algebra.Field.Defs
-- several statements use part of the `variable` line only
set_option linter.unusedSectionVars false
/-!
# C14 — the adaptive grid archive with `find_index` in exact arithmetic

`GoodCfg` (Props/C14.lean) of the configuration `gridCfgE` over any linearly ordered field with floor: cell function =
the literal `findIndex` (Model/Grid.lean) with `trunc x = ⌊x⌋.toNat`, bounds = per-objective min / max of the
members, comparator = Pareto dominance made total.

Nothing here is about doubles.  The driver executes `gridCfgF` (Driver/Ops.lean: `Float`, bounds folded from ±inf,
truncation `toUInt64`), which the harness compares with Platypus on histories; no theorem relates it to `gridCfgE`.
-/
namespace Platypus

variable {α : Type} [Field α] [LinearOrder α] [IsStrictOrderedRing α] [FloorRing α]

/-- Python's `int(x)` for `x ≥ 0` -/
def truncE (x : α) : Nat := (⌊x⌋ : Int).toNat

/-- the bounds of `adapt_grid`.  Python folds `min` / `max` from ±inf; here the folds start from the first member, and
an empty archive gets 0 (never consulted: `add` to an empty archive re-adapts before it looks up a cell).  `getD i 0`
is `solution.objectives[i]`; on a list shorter than `nobjs` Python raises, and `findIndex` reads no such index. -/
def boundsE (nobjs : Nat) (contents : List (Sol α)) : List α × List α :=
  ((List.range nobjs).map fun i => match contents with
      | [] => 0
      | s :: ss => ss.foldl (fun m t => min m (t.objs.getD i 0)) (s.objs.getD i 0),
   (List.range nobjs).map fun i => match contents with
      | [] => 0
      | s :: ss => ss.foldl (fun m t => max m (t.objs.getD i 0)) (s.objs.getD i 0))

/-- Pareto comparison, made total outside the well-formed solutions (lengths match the declaration, violation
`≥ 0`) so that it is a strict comparator on the whole type -/
def paretoTotal (c : Bool) (dirs : List Bool) (a b : Sol α) : Int :=
  if a.objs.length = dirs.length ∧ (0 : α) ≤ a.cv ∧ b.objs.length = dirs.length ∧ (0 : α) ≤ b.cv
  then paretoCompare c dirs a b else 0

theorem paretoTotal_eq (c : Bool) (dirs : List Bool) (a b : Sol α) (ha : WF dirs a) (hb : WF dirs b) :
    paretoTotal c dirs a b = paretoCompare c dirs a b :=
  if_pos ⟨ha.1, ha.2, hb.1, hb.2⟩

theorem wf_of_paretoTotal_ne_zero (c : Bool) (dirs : List Bool) (a b : Sol α)
    (h : paretoTotal c dirs a b ≠ 0) : WF dirs a ∧ WF dirs b := by
  unfold paretoTotal at h
  split at h
  · next hw => exact ⟨⟨hw.1, hw.2.1⟩, hw.2.2⟩
  · exact absurd rfl h

theorem paretoTotal_strict (c : Bool) (dirs : List Bool) : StrictCmp (paretoTotal (α := α) c dirs) := by
  constructor
  · intro x y
    by_cases hw : WF dirs x ∧ WF dirs y
    · rw [paretoTotal_eq c dirs y x hw.2 hw.1, paretoTotal_eq c dirs x y hw.1 hw.2]
      exact pareto_antisymm c dirs x y hw.1 hw.2
    · rw [of_not_not fun hne => hw (wf_of_paretoTotal_ne_zero c dirs x y hne),
        of_not_not fun hne => hw (wf_of_paretoTotal_ne_zero c dirs y x hne).symm]
      rfl
  · intro x y z h1 h2
    obtain ⟨hx, hy⟩ := wf_of_paretoTotal_ne_zero c dirs x y (Int.ne_of_lt h1)
    obtain ⟨-, hz⟩ := wf_of_paretoTotal_ne_zero c dirs y z (Int.ne_of_lt h2)
    rw [paretoTotal_eq c dirs x y hx hy] at h1
    rw [paretoTotal_eq c dirs y z hy hz] at h2
    rw [paretoTotal_eq c dirs x z hx hz]
    exact pareto_trans_lt c dirs x y z hx hy hz h1 h2

/-- `AdaptiveGridArchive(capacity, nobjs, divisions)` over `α`.  `find_index` loops over `range(self.nobjs)`;
`findIndexLoop` stops at the shortest of its three lists, and `take nobjs` makes that at most `nobjs` whatever the
bounds, as `GoodCfg.range` asks. -/
def gridCfgE (capacity nobjs divisions : Nat) (c : Bool) (dirs : List Bool) :
    GridCfg (Sol α) (List α × List α) :=
  { cmp := paretoTotal c dirs, getId := (·.id), mkBounds := boundsE nobjs,
    cell := fun b s => findIndex (fun n => (n : α)) truncE divisions b.1 b.2 (s.objs.take nobjs),
    ncells := divisions ^ nobjs, capacity := capacity, adaptOnEvict := true }

theorem truncE_mul_le (divisions : Nat) (value : α) (hv : value ≤ 1) :
    truncE ((divisions : α) * value) ≤ divisions :=
  Int.toNat_le.mpr <| Int.floor_le_iff.mpr <| by
    rw [Int.cast_natCast]
    exact (mul_le_of_le_one_right (Nat.cast_nonneg _) hv).trans_lt (lt_add_one _)

theorem scaled_le_one (lo hi v : α) (h : ¬ (v < lo ∨ hi < v)) :
    (if lo < hi then (v - lo) / (hi - lo) else 0) ≤ (1 : α) := by
  split
  · rename_i hlt
    exact div_le_one_of_le₀ (sub_le_sub_right (not_lt.mp (not_or.mp h).2) lo) (sub_nonneg.mpr hlt.le)
  · exact zero_le_one

/-- every digit of `find_index` is `< divisions`, hence the index is a cell of the grid -/
theorem findIndex_range (divisions : Nat) (hdiv : 1 ≤ divisions) (lo hi objs : List α) (c : Nat)
    (h : findIndex (fun n => (n : α)) truncE divisions lo hi objs = some c) :
    c < divisions ^ (min (min lo.length hi.length) objs.length) := by
  rw [← Nat.one_mul (divisions ^ _)]
  exact findIndexLoop_lt hdiv (fun lo hi v hin => truncE_mul_le divisions _ (scaled_le_one lo hi v hin)) Nat.one_pos h

theorem boundsE_length (nobjs : Nat) (contents : List (Sol α)) :
    (boundsE nobjs contents).1.length = nobjs ∧ (boundsE nobjs contents).2.length = nobjs :=
  ⟨(List.length_map _).trans List.length_range, (List.length_map _).trans List.length_range⟩

theorem boundsE_spec (nobjs : Nat) (contents : List (Sol α)) (m : Sol α) (hm : m ∈ contents) (i : Nat)
    (h1 : i < (boundsE nobjs contents).1.length) (h2 : i < (boundsE nobjs contents).2.length) :
    (boundsE nobjs contents).1[i] ≤ m.objs.getD i 0 ∧ m.objs.getD i 0 ≤ (boundsE nobjs contents).2[i] := by
  cases contents with
  | nil => cases hm
  | cons s ss =>
    have hmem : m.objs.getD i 0 ∈ s.objs.getD i 0 :: ss.map fun t => t.objs.getD i 0 :=
      List.mem_map_of_mem (f := fun t : Sol α => t.objs.getD i 0) hm
    simp only [boundsE, List.getElem_map, List.getElem_range,
      ← List.foldl_map (f := fun t : Sol α => t.objs.getD i 0)]
    exact ⟨(foldl_min_spec _ _).2 _ hmem, (foldl_max_spec _ _).2 _ hmem⟩

/-- a member of the archive lies inside the freshly adapted grid -/
theorem findIndex_inside (nobjs divisions : Nat) (contents : List (Sol α)) (m : Sol α) (hm : m ∈ contents) :
    ∃ c, findIndex (fun n => (n : α)) truncE divisions (boundsE nobjs contents).1 (boundsE nobjs contents).2
      (m.objs.take nobjs) = some c := by
  refine findIndexLoop_isSome fun i h1 h2 h3 => ?_
  have hv : (m.objs.take nobjs)[i] = m.objs.getD i 0 := by
    rw [List.getElem_take, List.getD_eq_getElem?_getD, List.getElem?_eq_getElem, Option.getD_some]
  rw [hv, not_or, not_lt, not_lt]
  exact boundsE_spec nobjs contents m hm i h2 h3

theorem gridCfgE_good (capacity nobjs divisions : Nat) (c : Bool) (dirs : List Bool)
    (hcap : 1 ≤ capacity) (hdiv : 1 ≤ divisions) :
    GoodCfg (gridCfgE (α := α) capacity nobjs divisions c dirs) := by
  have hrange : ∀ (b : List α × List α) (m : Sol α) (k : Nat),
      findIndex (fun n => (n : α)) truncE divisions b.1 b.2 (m.objs.take nobjs) = some k →
      k < divisions ^ nobjs := fun b m k hk =>
    Nat.lt_of_lt_of_le (findIndex_range divisions hdiv _ _ _ k hk)
      (Nat.pow_le_pow_right hdiv (Nat.le_trans (Nat.min_le_right _ _) (List.length_take_le _ _)))
  refine { cmp := paretoTotal_strict c dirs, cap := hcap, fixed := rfl, range := hrange,
           inside := fun contents m hm => ?_ }
  obtain ⟨k, hk⟩ := findIndex_inside nobjs divisions contents m hm
  exact ⟨k, hrange _ m k hk, hk⟩

/-- **the archive of `gridCfgE`**: after any history of distinct solution objects, at most `capacity` members,
none dominating another (by `paretoTotal`: Pareto dominance among well-formed members), and the reported
occupancy of every cell is the number of members in it -/
theorem aga_invariant_exact (capacity nobjs divisions : Nat) (c : Bool) (dirs : List Bool)
    (hcap : 1 ≤ capacity) (hdiv : 1 ≤ divisions) (xs : List (Sol α)) (hid : (xs.map (·.id)).Nodup) :
    Inv (gridCfgE capacity nobjs divisions c dirs) (gridRun (gridCfgE capacity nobjs divisions c dirs) xs) :=
  aga_invariant _ (gridCfgE_good capacity nobjs divisions c dirs hcap hdiv) xs hid

/-- two configurations that differ only in comparators agreeing on all offered pairs run identically -/
theorem gridRun_congr (cfg cfg' : GridCfg (Sol α) (List α × List α)) (xs : List (Sol α))
    (hid : cfg'.getId = cfg.getId) (hb : cfg'.mkBounds = cfg.mkBounds) (hc : cfg'.cell = cfg.cell)
    (hn : cfg'.ncells = cfg.ncells) (hcap : cfg'.capacity = cfg.capacity) (ha : cfg'.adaptOnEvict = cfg.adaptOnEvict)
    (hcmp : ∀ x ∈ xs, ∀ y ∈ xs, cfg'.cmp x y = cfg.cmp x y) :
    gridRun cfg' xs = gridRun cfg xs := by
  obtain ⟨cmp', gid', mb', cell', n', cap', a'⟩ := cfg'
  dsimp only at hid hb hc hn hcap ha hcmp
  subst hid hb hc hn hcap ha
  exact gridRun_congr_cmp cfg cmp' xs hcmp

/-- … in particular the archive run with plain `paretoCompare` (the comparator of Platypus and of the driver's
`gridCfgF`) on a history of well-formed solutions is the archive of `aga_invariant_exact` -/
theorem gridRun_pareto_eq (capacity nobjs divisions : Nat) (c : Bool) (dirs : List Bool) (xs : List (Sol α))
    (hwf : ∀ x ∈ xs, WF dirs x) :
    gridRun ({ gridCfgE capacity nobjs divisions c dirs with cmp := paretoCompare c dirs } :
        GridCfg (Sol α) (List α × List α)) xs
      = gridRun (gridCfgE capacity nobjs divisions c dirs) xs :=
  gridRun_congr_cmp _ _ xs fun x hx y hy => (paretoTotal_eq c dirs x y (hwf x hx) (hwf y hy)).symm

end Platypus
