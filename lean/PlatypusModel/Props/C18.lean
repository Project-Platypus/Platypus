import PlatypusModel.Model.Problems
import Mathlib.Algebra.Order.Field.Basic
import Mathlib.Algebra.Order.BigOperators.Group.List
set_option linter.unusedSectionVars false
/-
C18 — benchmark problems: the published front inequalities / equations of the DTLZ and ZDT reference
implementations (`Model/Problems.lean`, compared with platypus/problems.py on every run), mutual non-dominance of
points on one front surface, and the arity consequence of `FixedLengthArray`'s slice assignment.

Over any linearly ordered field `α` and any `Trig α` satisfying `TrigOK`; ℝ is such an instance, the `Float` instance
run by the driver is not: rounding is the gap, closed only by the 1e-9 tolerance of the check.
-/
namespace Platypus.C18

section
variable {α : Type} [Field α]

theorem sumL_eq_sum (l : List α) : sumL l = l.sum := List.sum_eq_foldl.symm

theorem prodL_eq_prod (l : List α) : prodL l = l.prod := List.prod_eq_foldl.symm

theorem sumL_map_const {β : Type} (l : List β) (f : β → α) (c : α) (h : ∀ v ∈ l, f v = c) :
    sumL (l.map f) = (l.length : α) * c := by
  rw [sumL_eq_sum, ← nsmul_eq_mul, ← l.length_map f]
  exact List.sum_eq_card_nsmul _ c (List.forall_mem_map.2 h)

theorem split_linear (P v : α) : P * v + P * (1 - v) = P := by
  rw [← mul_add, add_sub_cancel, mul_one]

theorem split_sq (P c s : α) (h : c * c + s * s = 1) : P * c * (P * c) + P * s * (P * s) = P * P := by
  rw [mul_mul_mul_comm, mul_mul_mul_comm _ s, ← mul_add, h, mul_one]

/-- The shape shared by DTLZ1, the DTLZ2–4 sphere and the linear and concave WFG shapes: `c` is handed down the chain
`y₀, y₁, …`; at `yⱼ` the share `q yⱼ` leaves (objective `M - 1 - j`) and the share `p yⱼ` goes on.  `φ = id`,
`p + q = 1`: simplex; `φ = (·)²`, `p² + q² = 1`: sphere. -/
theorem chain_sum (φ p q : α → α) (hsplit : ∀ P v, φ (P * p v) + φ (P * q v) = φ P) (c : α) (y : List α)
    (M : Nat) (hM : 1 ≤ M) (hy : M - 1 ≤ y.length) :
    sumL ((List.range M).map fun i =>
      φ (if i = 0 then c * prodL ((y.take (M - 1 - i)).map p)
         else c * prodL ((y.take (M - 1 - i)).map p) * q (y.getD (M - 1 - i) 0))) = φ c := by
  obtain ⟨n, rfl⟩ := Nat.exists_eq_add_of_le' hM
  clear hM
  rw [Nat.add_sub_cancel] at hy ⊢
  rw [sumL_eq_sum, List.sum_range_succ']
  simp only [Nat.succ_ne_zero, if_false, if_true, Nat.sub_zero]
  -- on the number of objectives, `y` fixed: one more shifts objectives `1, 2, …` up and splits what objective `0` held
  -- at `y_n` into the new `0` and `1`
  induction n with
  | zero =>
    rw [List.range_zero, List.map_nil, List.sum_nil, add_zero, List.take_zero, List.map_nil, prodL_eq_prod, List.prod_nil,
      mul_one]
  | succ n ih =>
    rw [List.sum_range_succ']
    simp only [Nat.succ_sub_succ, Nat.sub_zero]
    rw [← add_assoc, List.take_succ_eq_append_getElem hy, List.map_append, prodL_eq_prod, List.prod_append, ← prodL_eq_prod,
      List.map_singleton, List.prod_singleton, List.getD_eq_getElem?_getD, List.getElem?_eq_getElem hy, Option.getD_some,
      ← mul_assoc, hsplit]
    exact ih (Nat.le_of_succ_le hy)

end

section
variable {α : Type} [Field α] [LinearOrder α] [IsStrictOrderedRing α]

/-- what the proofs use about the transcendental functions -/
structure TrigOK (t : Trig α) : Prop where
  pythag : ∀ x, t.cos x * t.cos x + t.sin x * t.sin x = 1
  cos_zero : t.cos 0 = 1
  ofNat_eq : ∀ n : Nat, t.ofNat n = (n : α)
  pow_nonneg : ∀ x y, 0 ≤ x → 0 ≤ t.pow x y

def sumSq (l : List α) : α := sumL (l.map fun f => f * f)

theorem c18_sumL_nil : sumL ([] : List α) = 0 := rfl

theorem sumL_nonneg (l : List α) (h : ∀ v ∈ l, 0 ≤ v) : 0 ≤ sumL l :=
  (List.sum_nonneg h).trans_eq (sumL_eq_sum l).symm

theorem sumL_map_nonneg {β : Type} (l : List β) (f : β → α) (hf : ∀ v, 0 ≤ f v) : 0 ≤ sumL (l.map f) :=
  sumL_nonneg _ (List.forall_mem_map.2 fun v _ => hf v)

/-- `N` is `A · |l|` in the form the model writes it, so that the statement unifies with the model's term -/
theorem rastrigin_sum_nonneg (l : List α) (q g : α → α) (A N : α) (hN : A * l.length = N) (hq : ∀ v, 0 ≤ q v)
    (hg : ∀ v, g v ≤ A) : 0 ≤ N + sumL (l.map fun v => q v - g v) := by
  have := List.card_nsmul_le_sum (l.map fun v => q v - g v) (-A)
    (List.forall_mem_map.2 fun v _ => neg_le_sub_iff_le_add.2 (le_add_of_nonneg_of_le (hq v) (hg v)))
  rwa [nsmul_eq_mul, List.length_map, mul_neg, neg_le_iff_add_nonneg', mul_comm, ← sumL_eq_sum, hN] at this

theorem TrigOK.ofNat_nonneg {t : Trig α} (h : TrigOK t) (n : Nat) : 0 ≤ t.ofNat n :=
  (Nat.cast_nonneg n).trans_eq (h.ofNat_eq n).symm

theorem TrigOK.abs_cos_le_one {t : Trig α} (h : TrigOK t) (x : α) : |t.cos x| ≤ 1 :=
  abs_le_one_iff_mul_self_le_one.2 ((le_add_of_nonneg_right (mul_self_nonneg _)).trans_eq (h.pythag x))

theorem TrigOK.cos_le_one {t : Trig α} (h : TrigOK t) (x : α) : t.cos x ≤ 1 :=
  le_of_abs_le (h.abs_cos_le_one x)

theorem c18_half : (1 : α) / (1 + 1) = 1 / 2 := by rw [one_add_one_eq_two]

theorem sphereShape_length (t : Trig α) (M : Nat) (r : α) (y : List α) : (sphereShape t M r y).length = M := by
  rw [sphereShape, List.length_map, List.length_range]

theorem dtlz1_length (t : Trig α) (M : Nat) (x : List α) : (dtlz1 t M x).length = M := by
  rw [dtlz1, List.length_map, List.length_range]

theorem dtlz7_length (t : Trig α) (M : Nat) (x : List α) (hM : 1 ≤ M) (hx : M - 1 ≤ x.length) :
    (dtlz7 t M x).length = M := by
  rw [dtlz7, List.length_append, List.length_take, List.length_singleton, Nat.min_eq_left hx, Nat.sub_add_cancel hM]

/-! ### DTLZ2–4: `Σ fᵢ² = (1+g)²`, `g ≥ 0`, hence never below the unit sphere -/

theorem sphereShape_sum_sq (t : Trig α) (h : TrigOK t) (M : Nat) (hM : 1 ≤ M) (r : α) (y : List α)
    (hy : M - 1 ≤ y.length) : sumSq (sphereShape t M r y) = r * r := by
  rw [sumSq, sphereShape, List.map_map]
  exact chain_sum (fun f => f * f) (fun v => t.cos (1 / (1 + 1) * t.pi * v)) (fun v => t.sin (1 / (1 + 1) * t.pi * v))
    (fun P v => split_sq P _ _ (h.pythag _)) r y M hM hy

theorem sphereShape_front (t : Trig α) (h : TrigOK t) (M : Nat) (hM : 1 ≤ M) (g : α) (hg : 0 ≤ g) (y : List α)
    (hy : M - 1 ≤ y.length) : 1 ≤ sumSq (sphereShape t M (1 + g) y) :=
  have h1 : 1 ≤ 1 + g := le_add_of_nonneg_right hg
  (one_le_mul_of_one_le_of_one_le h1 h1).trans_eq (sphereShape_sum_sq t h M hM _ y hy).symm

/-- `g` with `hg : g = 0`, not `0`: unifies with `dtlz2`–`dtlz4` unfolded, whose radius is `1 + gSphere _` -/
theorem sphereShape_on_front (t : Trig α) (h : TrigOK t) (M : Nat) (hM : 1 ≤ M) (g : α) (hg : g = 0) (y : List α)
    (hy : M - 1 ≤ y.length) : sumSq (sphereShape t M (1 + g) y) = 1 := by
  rw [sphereShape_sum_sq t h M hM _ y hy, hg, add_zero, mul_one]

theorem gSphere_nonneg (xm : List α) : 0 ≤ gSphere xm :=
  sumL_map_nonneg xm _ fun _ => mul_self_nonneg _

theorem gRastrigin_nonneg (t : Trig α) (h : TrigOK t) (xm : List α) : 0 ≤ gRastrigin t xm :=
  mul_nonneg (h.ofNat_nonneg 100) (rastrigin_sum_nonneg _ _ _ 1 _ (by rw [one_mul, h.ofNat_eq])
    (fun _ => mul_self_nonneg _) fun _ => h.cos_le_one _)

theorem dtlz2_front (t : Trig α) (h : TrigOK t) (M : Nat) (hM : 1 ≤ M) (x : List α) (hx : M - 1 ≤ x.length) :
    1 ≤ sumSq (dtlz2 t M x) :=
  sphereShape_front t h M hM _ (gSphere_nonneg _) x hx

theorem dtlz3_front (t : Trig α) (h : TrigOK t) (M : Nat) (hM : 1 ≤ M) (x : List α) (hx : M - 1 ≤ x.length) :
    1 ≤ sumSq (dtlz3 t M x) :=
  sphereShape_front t h M hM _ (gRastrigin_nonneg t h _) x hx

theorem dtlz4_front (t : Trig α) (h : TrigOK t) (M : Nat) (hM : 1 ≤ M) (a : α) (x : List α) (hx : M - 1 ≤ x.length) :
    1 ≤ sumSq (dtlz4 t M a x) :=
  sphereShape_front t h M hM _ (gSphere_nonneg _) _ (by rwa [List.length_map])

/-! ### DTLZ1: `Σ fᵢ = (1+g)/2 ≥ 1/2` -/

theorem dtlz1_sum (t : Trig α) (M : Nat) (hM : 1 ≤ M) (x : List α) (hx : M - 1 ≤ x.length) :
    sumL (dtlz1 t M x) = (1 + gRastrigin t (x.drop (M - 1))) / 2 := by
  have key := chain_sum id id (fun v => 1 - v) split_linear
    (1 / (1 + 1) * (1 + gRastrigin t (x.drop (M - 1)))) x M hM hx
  simp only [List.map_id, id] at key
  rw [dtlz1, key, c18_half, mul_comm, mul_one_div]

theorem dtlz1_front (t : Trig α) (h : TrigOK t) (M : Nat) (hM : 1 ≤ M) (x : List α) (hx : M - 1 ≤ x.length) :
    1 / 2 ≤ sumL (dtlz1 t M x) := by
  rw [dtlz1_sum t M hM x hx]
  exact div_le_div_of_nonneg_right (le_add_of_nonneg_right (gRastrigin_nonneg t h _)) zero_le_two

/-! ### the Pareto samplers (`random()`: distance variables at ½) land on the front -/

theorem gSphere_opt (xm : List α) (h : ∀ v ∈ xm, v = 1 / 2) : gSphere xm = 0 := by
  rw [gSphere, sumL_map_const xm _ 0, mul_zero]
  intro v hv
  rw [h v hv, c18_half, sub_self, mul_zero]

theorem gRastrigin_opt (t : Trig α) (ht : TrigOK t) (xm : List α) (h : ∀ v ∈ xm, v = 1 / 2) : gRastrigin t xm = 0 := by
  rw [gRastrigin, sumL_map_const xm _ (-1), ht.ofNat_eq xm.length, mul_neg_one, add_neg_cancel, mul_zero]
  intro v hv
  rw [h v hv, c18_half, sub_self, mul_zero, mul_zero, ht.cos_zero, zero_sub]

theorem dtlz2_sampler_on_front (t : Trig α) (h : TrigOK t) (M : Nat) (hM : 1 ≤ M) (x : List α) (hx : M - 1 ≤ x.length)
    (hopt : ∀ v ∈ x.drop (M - 1), v = 1 / 2) : sumSq (dtlz2 t M x) = 1 :=
  sphereShape_on_front t h M hM _ (gSphere_opt _ hopt) x hx

theorem dtlz3_sampler_on_front (t : Trig α) (h : TrigOK t) (M : Nat) (hM : 1 ≤ M) (x : List α) (hx : M - 1 ≤ x.length)
    (hopt : ∀ v ∈ x.drop (M - 1), v = 1 / 2) : sumSq (dtlz3 t M x) = 1 :=
  sphereShape_on_front t h M hM _ (gRastrigin_opt t h _ hopt) x hx

theorem dtlz4_sampler_on_front (t : Trig α) (h : TrigOK t) (M : Nat) (hM : 1 ≤ M) (a : α) (x : List α) (hx : M - 1 ≤ x.length)
    (hopt : ∀ v ∈ x.drop (M - 1), v = 1 / 2) : sumSq (dtlz4 t M a x) = 1 :=
  sphereShape_on_front t h M hM _ (gSphere_opt _ hopt) _ (by rwa [List.length_map])

theorem dtlz1_sampler_on_front (t : Trig α) (h : TrigOK t) (M : Nat) (hM : 1 ≤ M) (x : List α) (hx : M - 1 ≤ x.length)
    (hopt : ∀ v ∈ x.drop (M - 1), v = 1 / 2) : sumL (dtlz1 t M x) = 1 / 2 := by
  rw [dtlz1_sum t M hM x hx, gRastrigin_opt t h _ hopt, add_zero]

/-! ### points on one front surface are mutually non-dominated

(minimisation) if `a` is no worse than `b` everywhere and both satisfy the same front equation then `a = b`.
Weights `1/(2i)²` would give the WFG4–9 ellipsoid, but no lemma rewrites `scaledSq` (C18WFG) into this `zipWith` form. -/

theorem simplex_nondominated (a b : List α) (hle : List.Forall₂ (· ≤ ·) a b) (hs : sumL a = sumL b) : a = b := by
  rw [sumL_eq_sum, sumL_eq_sum] at hs
  induction hle with
  | nil => rfl
  | cons hxy hab ih =>
    rw [List.sum_cons, List.sum_cons] at hs
    obtain ⟨hx, hl⟩ := (add_eq_add_iff_eq_and_eq hxy hab.sum_le_sum).1 hs
    rw [hx, ih hl]

/-- the ellipsoid is the simplex in the coordinates `c v²` -/
theorem weightedSq_mono_inj (w a b : List α) (hw : ∀ v ∈ w, 0 < v) (hlen : w.length = a.length)
    (ha : ∀ v ∈ a, 0 ≤ v) (hle : List.Forall₂ (· ≤ ·) a b) :
    List.Forall₂ (· ≤ ·) (List.zipWith (fun c v => c * (v * v)) w a) (List.zipWith (fun c v => c * (v * v)) w b) ∧
    (List.zipWith (fun c v => c * (v * v)) w a = List.zipWith (fun c v => c * (v * v)) w b → a = b) := by
  induction hle generalizing w with
  | nil =>
    rw [List.zipWith_nil_right]
    exact ⟨.nil, fun _ => rfl⟩
  | @cons x y a b hxy _ ih =>
    cases w with
    | nil => cases hlen
    | cons c w =>
      rw [List.forall_mem_cons] at hw ha
      obtain ⟨hl, he⟩ := ih w hw.2 (Nat.succ_injective hlen) ha.2
      rw [List.zipWith_cons_cons, List.zipWith_cons_cons]
      refine ⟨.cons (mul_le_mul_of_nonneg_left (mul_self_le_mul_self ha.1 hxy) hw.1.le) hl, fun hs => ?_⟩
      obtain ⟨h4, h5⟩ := List.cons.inj hs
      rw [(mul_self_inj ha.1 (ha.1.trans hxy)).1 (mul_left_cancel₀ hw.1.ne' h4), he h5]

theorem ellipsoid_nondominated (w a b : List α) (hw : ∀ v ∈ w, 0 < v) (hlen : w.length = a.length)
    (ha : ∀ v ∈ a, 0 ≤ v) (hle : List.Forall₂ (· ≤ ·) a b)
    (hs : sumL (List.zipWith (fun c v => c * (v * v)) w a) = sumL (List.zipWith (fun c v => c * (v * v)) w b)) :
    a = b :=
  have h := weightedSq_mono_inj w a b hw hlen ha hle
  h.2 (simplex_nondominated _ _ h.1 hs)

theorem sphere_nondominated (a b : List α) (ha : ∀ v ∈ a, 0 ≤ v) (hle : List.Forall₂ (· ≤ ·) a b)
    (hs : sumSq a = sumSq b) : a = b := by
  -- the sphere is the ellipsoid with all weights 1
  have e : ∀ l : List α, sumSq l = sumL (List.zipWith (fun c v => c * (v * v)) (List.replicate l.length 1) l) := by
    intro l
    rw [← List.map_const', List.zipWith_map_left, List.zipWith_self]
    simp only [one_mul]
    rfl
  rw [e a, e b, ← hle.length_eq] at hs
  exact ellipsoid_nondominated (List.replicate a.length 1) a b
    (fun v hv => one_pos.trans_eq (List.eq_of_mem_replicate hv).symm) List.length_replicate ha hle hs

theorem zdtG_ge_one (t : Trig α) (h : TrigOK t) (x : List α) (hx : ∀ v ∈ x, 0 ≤ v) : 1 ≤ zdtG t x :=
  le_add_of_nonneg_right (div_nonneg (mul_nonneg (h.ofNat_nonneg 9)
    (sumL_nonneg _ fun v hv => hx v (List.mem_of_mem_drop hv))) (h.ofNat_nonneg _))

theorem zdt4G_ge_one (t : Trig α) (h : TrigOK t) (x : List α) : 1 ≤ zdt4G t x :=
  (le_add_of_nonneg_right (rastrigin_sum_nonneg _ _ _ (t.ofNat 10) _ (by rw [List.length_drop, ← h.ofNat_eq])
    (fun _ => mul_self_nonneg _) fun _ => mul_le_of_le_one_right (h.ofNat_nonneg 10) (h.cos_le_one _))).trans_eq
    (add_assoc _ _ _).symm

theorem zdt6G_ge_one (t : Trig α) (h : TrigOK t) (x : List α) (hx : ∀ v ∈ x, 0 ≤ v) : 1 ≤ zdt6G t x :=
  le_add_of_nonneg_right (mul_nonneg (h.ofNat_nonneg 9) (h.pow_nonneg _ _
    (div_nonneg (sumL_nonneg _ fun v hv => hx v (List.mem_of_mem_drop hv)) (h.ofNat_nonneg _))))

/-- the second objective of `zdt2` and of `zdt6`; the front is stated for `zdt2` only -/
theorem zdt2_shape_front (f1 g : α) (hg : 1 ≤ g) : 1 - f1 * f1 ≤ g * (1 - (f1 / g) * (f1 / g)) := by
  rw [mul_sub, mul_one, ← mul_assoc, mul_div_cancel₀ _ (zero_lt_one.trans_le hg).ne', ← mul_div_assoc]
  exact sub_le_sub hg (div_le_self (mul_self_nonneg _) hg)

theorem zdt2_front (t : Trig α) (h : TrigOK t) (x : List α) (hx : ∀ v ∈ x, 0 ≤ v) :
    1 - x.getD 0 0 * x.getD 0 0 ≤ (zdt2 t x).getD 1 0 :=
  zdt2_shape_front _ _ (zdtG_ge_one t h x hx)

/-- ZDT5: `g = Σ v(u(xᵢ)) ≥ n - 1`, so `g ≥ 10` with the eleven declared variables -/
theorem zdt5_g_ge (x : List (List Bool)) : x.length - 1 ≤ (zdt5 x).2.1 :=
  le_of_eq_of_le (by rw [List.length_map, List.length_drop]) (List.length_le_sum_of_one_le _
    (List.forall_mem_map.2 fun b _ => by
      split
      · exact Nat.le_add_right_of_le one_le_two
      · exact le_rfl))

theorem zdt5_f1_pos (x : List (List Bool)) : 1 ≤ (zdt5 x).1 ∧ (zdt5 x).2.2 = (zdt5 x).1 :=
  ⟨Nat.le_add_right 1 _, rfl⟩

end

/-! ### `solution.objectives[:] = value` stores as many scalars as declared iff `value` has that many entries -/

theorem sliceAssign_length (data : List PV) (start stop : Nat) (v : PV) :
    (sliceAssign data start stop v).length = data.length := by
  simp only [sliceAssign, List.length_map, List.length_range]

theorem sliceAssign_all (data vs : List PV) :
    sliceAssign data 0 data.length (.list vs) =
      (List.range data.length).map fun i => if vs.length = data.length then vs.getD i (.list vs) else .list vs := by
  unfold sliceAssign
  simp only [Nat.min_self, Nat.sub_zero]
  refine List.map_congr_left fun i hi => ?_
  rw [if_pos ⟨i.zero_le, List.mem_range.1 hi⟩]
  by_cases h : vs.length = data.length
  · simp only [if_pos h]
  · simp only [if_neg h]

/-- assigning one entry per position to the whole array stores those entries, scalars or not -/
theorem sliceAssign_all_matching (data vs : List PV) (hlen : vs.length = data.length) :
    sliceAssign data 0 data.length (.list vs) = vs := by
  rw [sliceAssign_all, ← hlen]
  simp only [if_true]
  refine List.ext_getElem (by rw [List.length_map, List.length_range]) fun i _ h2 => ?_
  rw [List.getElem_map, List.getElem_range, List.getD_eq_getElem?_getD, List.getElem?_eq_getElem h2, Option.getD_some]

/-- assigning a list of the wrong length (the CF8–CF10 defect: `[f1, f2]` into three objectives) stores the list
itself in every position: no entry is a scalar -/
theorem sliceAssign_all_mismatch (data vs : List PV) (hlen : vs.length ≠ data.length) :
    sliceAssign data 0 data.length (.list vs) = List.replicate data.length (.list vs) := by
  rw [sliceAssign_all]
  simp only [if_neg hlen, List.map_const', List.length_range]

theorem sliceAssign_scalars_iff (data vs : List PV) (hpos : 0 < data.length) (hvs : ∀ v ∈ vs, v.isScalar = true) :
    (∀ e ∈ sliceAssign data 0 data.length (.list vs), e.isScalar = true) ↔ vs.length = data.length := by
  constructor
  · intro h
    by_contra hne
    rw [sliceAssign_all_mismatch data vs hne] at h
    exact Bool.false_ne_true (h (.list vs) (List.mem_replicate.2 ⟨hpos.ne', rfl⟩))
  · intro h
    rw [sliceAssign_all_matching data vs h]
    exact hvs

-- the CF8–CF10 case

example : sliceAssign [.scalar 0, .scalar 0, .scalar 0] 0 3 (.list [.scalar 1, .scalar 2])
    = [.list [.scalar 1, .scalar 2], .list [.scalar 1, .scalar 2], .list [.scalar 1, .scalar 2]] := by
  rfl

end Platypus.C18
