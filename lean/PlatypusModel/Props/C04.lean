import PlatypusModel.Model.Sorting
import PlatypusModel.Props.C03
import Batteries.Data.List.Perm
import Mathlib.Data.List.Nodup
/-!
# C04 — non-dominated sorting ranks by domination depth; truncation respects rank

Ranks: for any `StrictCmp` (`paretoCompare` has its laws among well-formed solutions only; `paretoTotal` of
`Props/C14Num` has them everywhere) and any population with distinct ids (equal objective vectors allowed).  The fuel
of the peeling loop goes once, in `sortFronts_cons`; the rest is the recursion of the ranks (`rank_zero_iff`,
`rank_succ_step`).  Truncation: for any total transitive key order.  Split and prune: for any `rank : σ → Nat` (never
instantiated here with the ranks of `sortFronts`) and any crowding function that returns one value per member.
-/
namespace Platypus

variable {σ : Type}

/-- termination of the peeling loop: a non-empty population has a non-empty first front -/
theorem peel_nonempty {cmp : σ → σ → Int} (h : StrictCmp cmp) (l : List σ) (hl : l ≠ []) :
    archiveOf cmp l ≠ [] := by
  obtain ⟨x, hx⟩ := List.exists_mem_of_ne_nil l hl
  rcases archive_coverage h l x hx with hm | ⟨m, hm, _⟩ <;> exact List.ne_nil_of_mem hm

section
variable {cmp : σ → σ → Int} {getId : σ → Nat}

theorem mem_removeIds {F R : List σ} {x : σ} :
    x ∈ removeIds getId F R ↔ x ∈ R ∧ ¬ F.any (fun y => getId y == getId x) = true := by
  rw [removeIds, List.mem_filter, Bool.not_eq]

theorem rankIn_cons (F : List σ) (rest : List (List σ)) (i : Nat) :
    rankIn getId (F :: rest) i =
      if F.any (fun y => getId y == i) = true then some 0
      else (rankIn getId rest i).map (· + 1) :=
  List.findIdx?_cons

theorem front_any_iff (h : StrictCmp cmp) {R : List σ} (hid : (R.map getId).Nodup) {x : σ}
    (hx : x ∈ R) :
    (archiveOf cmp R).any (fun y => getId y == getId x) = true ↔ ∀ y ∈ R, ¬ cmp y x < 0 := by
  simp only [List.any_eq_true, beq_iff_eq, mem_archive_iff h]
  constructor
  · rintro ⟨y, ⟨hy, hu⟩, e⟩
    rwa [← List.inj_on_of_nodup_map hid hy hx e]
  · exact fun hu => ⟨x, ⟨hx, hu⟩, rfl⟩

theorem mem_rest_iff (h : StrictCmp cmp) {R : List σ} (hid : (R.map getId).Nodup) {x : σ} :
    x ∈ removeIds getId (archiveOf cmp R) R ↔ x ∈ R ∧ ∃ y ∈ R, cmp y x < 0 := by
  rw [mem_removeIds, and_congr_right_iff]
  intro hx
  rw [front_any_iff h hid hx]
  push Not
  rfl

theorem rest_nodup {R : List σ} (hid : (R.map getId).Nodup) :
    ((removeIds getId (archiveOf cmp R) R).map getId).Nodup :=
  hid.sublist (List.filter_sublist.map getId)

theorem rest_length_lt (h : StrictCmp cmp) (getId : σ → Nat) {R : List σ} (hR : R ≠ []) :
    (removeIds getId (archiveOf cmp R) R).length < R.length := by
  obtain ⟨z, hz⟩ := List.exists_mem_of_ne_nil _ (peel_nonempty h R hR)
  refine List.length_filter_lt_length_iff_exists.mpr ⟨z, ((mem_archive_iff h R z).mp hz).1, ?_⟩
  rw [List.any_eq_true.mpr ⟨z, hz, beq_self_eq_true (getId z)⟩]
  exact Bool.false_ne_true

theorem peelFronts_nil (cmp : σ → σ → Int) (getId : σ → Nat) (f : Nat) :
    peelFronts cmp getId f [] = [] := by
  cases f <;> rfl

theorem peelFronts_fuel (h : StrictCmp cmp) (getId : σ → Nat) {f g : Nat} {R : List σ}
    (hf : R.length ≤ f) (hg : R.length ≤ g) :
    peelFronts cmp getId f R = peelFronts cmp getId g R := by
  induction f generalizing g R with
  | zero => rw [List.eq_nil_of_length_eq_zero (Nat.le_zero.mp hf), peelFronts_nil, peelFronts_nil]
  | succ f ih =>
    cases R with
    | nil => rw [peelFronts_nil, peelFronts_nil]
    | cons x xs =>
      have hlt := Nat.le_of_lt_succ (rest_length_lt h getId (List.cons_ne_nil x xs))
      obtain ⟨g, rfl⟩ := Nat.exists_eq_add_one_of_ne_zero (Nat.ne_zero_of_lt hg)
      exact congrArg (archiveOf cmp (x :: xs) :: ·)
        (ih (Nat.le_trans hlt (Nat.le_of_succ_le_succ hf))
          (Nat.le_trans hlt (Nat.le_of_succ_le_succ hg)))

theorem sortFronts_cons (h : StrictCmp cmp) (getId : σ → Nat) {R : List σ} (hR : R ≠ []) :
    sortFronts cmp getId R =
      archiveOf cmp R :: sortFronts cmp getId (removeIds getId (archiveOf cmp R) R) := by
  have hlt := rest_length_lt h getId hR
  obtain ⟨x, xs, rfl⟩ := List.exists_cons_of_ne_nil hR
  rw [List.length_cons] at hlt
  exact congrArg _ (peelFronts_fuel h getId (Nat.le_of_lt_succ hlt) (Nat.le_refl _))

theorem peel_induction (h : StrictCmp cmp) (getId : σ → Nat) {P : List σ → Prop} (nil : P [])
    (step : ∀ R, R ≠ [] → P (removeIds getId (archiveOf cmp R) R) → P R) (R : List σ) : P R := by
  induction hn : R.length using Nat.strongRecOn generalizing R with
  | _ n ih =>
    by_cases hR : R = []
    · exact hR ▸ nil
    · exact step R hR (ih _ (hn ▸ rest_length_lt h getId hR) _ rfl)
end

/-- rank 0 ⇔ non-dominated in the whole population -/
theorem rank_zero_iff {cmp : σ → σ → Int} (h : StrictCmp cmp) (getId : σ → Nat) (sols : List σ)
    (hid : (sols.map getId).Nodup) (x : σ) (hx : x ∈ sols) :
    rankIn getId (sortFronts cmp getId sols) (getId x) = some 0 ↔ ∀ y ∈ sols, ¬ cmp y x < 0 := by
  rw [sortFronts_cons h getId (List.ne_nil_of_mem hx), rankIn_cons, ← front_any_iff h hid hx]
  cases (archiveOf cmp sols).any fun y => getId y == getId x <;> simp

section
variable {cmp : σ → σ → Int} {getId : σ → Nat}

theorem rank_succ_step (h : StrictCmp cmp) {R : List σ} {x : σ} (hx : x ∈ R) (q : Nat) :
    rankIn getId (sortFronts cmp getId R) (getId x) = some (q + 1) ↔
      x ∈ removeIds getId (archiveOf cmp R) R ∧
        rankIn getId (sortFronts cmp getId (removeIds getId (archiveOf cmp R) R)) (getId x) = some q := by
  rw [sortFronts_cons h getId (List.ne_nil_of_mem hx), rankIn_cons, mem_removeIds, and_iff_right hx]
  cases (archiveOf cmp R).any fun y => getId y == getId x <;> simp

theorem rank_lt_of_dominates (h : StrictCmp cmp) {R : List σ} (hid : (R.map getId).Nodup) {x y : σ}
    (hx : x ∈ R) (hy : y ∈ R) (hyx : cmp y x < 0) {p q : Nat}
    (hp : rankIn getId (sortFronts cmp getId R) (getId y) = some p)
    (hq : rankIn getId (sortFronts cmp getId R) (getId x) = some q) : p < q := by
  induction q generalizing R p with
  | zero => exact absurd hyx ((rank_zero_iff h getId R hid x hx).mp hq y hy)
  | succ q ih =>
    cases p with
    | zero => exact Nat.succ_pos q
    | succ p =>
      obtain ⟨hx', hq'⟩ := (rank_succ_step h hx q).mp hq
      obtain ⟨hy', hp'⟩ := (rank_succ_step h hy p).mp hp
      exact Nat.succ_lt_succ (ih (rest_nodup hid) hx' hy' hp' hq')

theorem exists_dominator_of_rank_succ (h : StrictCmp cmp) {R : List σ} (hid : (R.map getId).Nodup)
    {x : σ} (hx : x ∈ R) {q : Nat}
    (hq : rankIn getId (sortFronts cmp getId R) (getId x) = some (q + 1)) :
    ∃ y ∈ R, cmp y x < 0 ∧ rankIn getId (sortFronts cmp getId R) (getId y) = some q := by
  induction q generalizing R with
  | zero =>
    -- `x` was not in the first front: a member of it dominates `x`
    obtain ⟨u, hu, huu, hux⟩ := exists_undominated_dominator h R x
      ((mem_rest_iff h hid).mp ((rank_succ_step h hx 0).mp hq).1).2
    exact ⟨u, hu, hux, (rank_zero_iff h getId R hid u hu).mpr ((undom_iff cmp R u).mp huu)⟩
  | succ q ih =>
    obtain ⟨hx', hq'⟩ := (rank_succ_step h hx (q + 1)).mp hq
    obtain ⟨y, hy', hyx, hr⟩ := ih (rest_nodup hid) hx' hq'
    have hy := (mem_removeIds.mp hy').1
    exact ⟨y, hy, hyx, (rank_succ_step h hy q).mpr ⟨hy', hr⟩⟩
end

/-- every member of the population receives a rank (the fuel `length` suffices) -/
theorem sort_assigns_rank {cmp : σ → σ → Int} (h : StrictCmp cmp) (getId : σ → Nat) (sols : List σ)
    (x : σ) (hx : x ∈ sols) : ∃ r, rankIn getId (sortFronts cmp getId sols) (getId x) = some r := by
  induction sols using peel_induction h getId with
  | nil => cases hx
  | step R hR ih =>
    by_cases ha : (archiveOf cmp R).any (fun y => getId y == getId x) = true
    · exact ⟨0, by rw [sortFronts_cons h getId hR, rankIn_cons, if_pos ha]⟩
    · have hx' := mem_removeIds.mpr ⟨hx, ha⟩
      obtain ⟨r, hr⟩ := ih hx'
      exact ⟨r + 1, (rank_succ_step h hx r).mpr ⟨hx', hr⟩⟩

/-- every peeled front is non-empty (no rank is skipped: `sortRanks_gapFree`, `Props/C09NSGA3`) -/
theorem fronts_nonempty {cmp : σ → σ → Int} (h : StrictCmp cmp) (getId : σ → Nat) (sols : List σ) :
    ∀ fr ∈ sortFronts cmp getId sols, fr ≠ [] := by
  induction sols using peel_induction h getId with
  | nil => intro fr hfr; cases hfr
  | step R hR ih =>
    rw [sortFronts_cons h getId hR, List.forall_mem_cons]
    exact ⟨peel_nonempty h R hR, ih⟩

/-- rank r+1 ⇔ every dominator has rank ≤ r and some dominator has rank exactly r -/
theorem rank_succ_iff {cmp : σ → σ → Int} (h : StrictCmp cmp) (getId : σ → Nat) (sols : List σ)
    (hid : (sols.map getId).Nodup) (x : σ) (hx : x ∈ sols) (r : Nat) :
    rankIn getId (sortFronts cmp getId sols) (getId x) = some (r + 1) ↔
      ((∀ y ∈ sols, cmp y x < 0 →
          ∃ q, q ≤ r ∧ rankIn getId (sortFronts cmp getId sols) (getId y) = some q) ∧
       (∃ y ∈ sols, cmp y x < 0 ∧ rankIn getId (sortFronts cmp getId sols) (getId y) = some r)) := by
  constructor
  · intro hr
    refine ⟨fun y hy hyx => ?_, exists_dominator_of_rank_succ h hid hx hr⟩
    obtain ⟨q, hq⟩ := sort_assigns_rank h getId sols y hy
    exact ⟨q, Nat.le_of_lt_succ (rank_lt_of_dominates h hid hx hy hyx hq hr), hq⟩
  · rintro ⟨hall, y, hy, hyx, hry⟩
    obtain ⟨q, hq⟩ := sort_assigns_rank h getId sols x hx
    have hlt := rank_lt_of_dominates h hid hx hy hyx hry hq
    -- the rank of `x` exceeds `r`; were it above `r + 1`, its dominator one below would exceed `r`
    obtain ⟨q', rfl⟩ := Nat.exists_eq_add_one_of_ne_zero (Nat.ne_zero_of_lt hlt)
    obtain ⟨z, hz, hzx, hrz⟩ := exists_dominator_of_rank_succ h hid hx hq
    obtain ⟨p, hp, hrz'⟩ := hall z hz hzx
    obtain rfl : q' = p := Option.some.inj (hrz.symm.trans hrz')
    rw [hq, Nat.le_antisymm hp (Nat.le_of_lt_succ hlt)]

/-- exactly `min k n` solutions are returned (k = 0 and k ≥ n included) -/
theorem truncate_length (le : σ → σ → Bool) (l : List σ) (k : Nat) :
    (truncateBy le l k).length = min k l.length := by
  rw [truncateBy, List.length_take, List.length_mergeSort]

/-- the kept solutions together with the discarded ones are a permutation of the input: distinct
members of the input, nothing invented, nothing duplicated -/
theorem truncate_perm (le : σ → σ → Bool) (l : List σ) (k : Nat) :
    (truncateBy le l k ++ (l.mergeSort le).drop k).Perm l := by
  unfold truncateBy
  rw [List.take_append_drop]
  exact List.mergeSort_perm l le

theorem pairwise_mergeSort (le : σ → σ → Bool)
    (htotal : ∀ a b, le a b = true ∨ le b a = true)
    (htrans : ∀ a b c, le a b = true → le b c = true → le a c = true) (l : List σ) :
    (l.mergeSort le).Pairwise (fun a b => le a b = true) :=
  List.pairwise_mergeSort (le := le) htrans (fun a b => by simpa using htotal a b) l

/-- nothing kept is worse (in the key order) than anything discarded -/
theorem truncate_monotone (le : σ → σ → Bool)
    (htotal : ∀ a b, le a b = true ∨ le b a = true)
    (htrans : ∀ a b c, le a b = true → le b c = true → le a c = true)
    (l : List σ) (k : Nat) :
    ∀ x ∈ truncateBy le l k, ∀ y ∈ (l.mergeSort le).drop k, le x y = true := by
  have hs := pairwise_mergeSort le htotal htrans l
  rw [← List.take_append_drop k (l.mergeSort le), List.pairwise_append] at hs
  exact hs.2.2

section
variable {κ : Type} [LT κ] [DecidableLT κ] [Neg κ]

theorem sortCmp_of_rank_lt {x y : Ranked κ} (h : x.rank < y.rank) : sortCmp x y = -1 := by
  rw [sortCmp, if_neg (by simpa using Nat.ne_of_lt h), if_pos h]

theorem sortCmp_of_rank_gt {x y : Ranked κ} (h : y.rank < x.rank) : sortCmp x y = 1 := by
  rw [sortCmp, if_neg (by simpa using Nat.ne_of_gt h), if_neg (Nat.lt_asymm h), if_pos h]
end

section
variable {κ : Type} [LinearOrder κ] [Neg κ]

/-- nothing is asked of `Neg κ`: a total preorder on the negated crowding values whatever negation does -/
theorem sortCmp_le_iff (x y : Ranked κ) :
    sortCmp x y ≤ 0 ↔ x.rank < y.rank ∨ (x.rank = y.rank ∧ -x.cd ≤ -y.cd) := by
  rcases Nat.lt_trichotomy x.rank y.rank with h | h | h
  · simp [sortCmp_of_rank_lt h, h]
  · rw [sortCmp, if_pos (beq_iff_eq.mpr h), or_iff_right (Nat.ne_of_lt · h), and_iff_right h]
    rcases lt_trichotomy (-x.cd) (-y.cd) with hc | hc | hc
    · rw [if_pos hc]
      exact iff_of_true (by decide) hc.le
    · rw [if_neg hc.not_lt, if_neg hc.not_gt]
      exact iff_of_true (Int.le_refl 0) hc.le
    · rw [if_neg hc.not_gt, if_pos hc]
      exact iff_of_false (by decide) hc.not_ge
  · simp [sortCmp_of_rank_gt h, Nat.ne_of_gt h, Nat.lt_asymm h]

theorem sortCmp_total (a b : Ranked κ) :
    decide (sortCmp a b ≤ 0) = true ∨ decide (sortCmp b a ≤ 0) = true := by
  simp only [decide_eq_true_eq, sortCmp_le_iff]
  rcases Nat.lt_trichotomy a.rank b.rank with h | h | h
  · exact .inl (.inl h)
  · exact (le_total (-a.cd) (-b.cd)).imp (fun hc => .inr ⟨h, hc⟩) (fun hc => .inr ⟨h.symm, hc⟩)
  · exact .inr (.inl h)

theorem sortCmp_trans (a b c : Ranked κ) :
    decide (sortCmp a b ≤ 0) = true → decide (sortCmp b c ≤ 0) = true →
      decide (sortCmp a c ≤ 0) = true := by
  simp only [decide_eq_true_eq, sortCmp_le_iff]
  rintro (h1 | ⟨h1, c1⟩) (h2 | ⟨h2, c2⟩)
  · exact .inl (Nat.lt_trans h1 h2)
  · exact .inl (h2 ▸ h1)
  · exact .inl (h1 ▸ h2)
  · exact .inr ⟨h1.trans h2, c1.trans c2⟩
end

/-- `nondominated_truncate`: never keeps a solution while discarding one of strictly smaller rank, nor,
within the cut front, one of larger crowding distance -/
theorem nondominatedTruncate_rank_monotone {κ : Type} [LinearOrder κ] [Neg κ]
    (hneg : ∀ a b : κ, -a < -b ↔ b < a) (l : List (Ranked κ)) (k : Nat) :
    ∀ x ∈ nondominatedTruncate l k,
      ∀ y ∈ (l.mergeSort (fun a b => decide (sortCmp a b ≤ 0))).drop k,
        x.rank ≤ y.rank ∧ (x.rank = y.rank → y.cd ≤ x.cd) := by
  intro x hx y hy
  have hm := truncate_monotone _ sortCmp_total sortCmp_trans l k x hx y hy
  rw [decide_eq_true_eq, sortCmp_le_iff] at hm
  rcases hm with h | ⟨h, hc⟩
  · exact ⟨Nat.le_of_lt h, fun e => absurd e (Nat.ne_of_lt h)⟩
  · exact ⟨Nat.le_of_eq h, fun _ => not_lt.mp fun hlt => hc.not_gt ((hneg _ _).mpr hlt)⟩

theorem nondominatedTruncate_length {κ : Type} [LinearOrder κ] [Neg κ] (l : List (Ranked κ)) (k : Nat) :
    (nondominatedTruncate l k).length = min k l.length :=
  truncate_length _ l k

theorem mem_matchesRank {rank : σ → Nat} {l : List σ} {r : Nat} {x : σ} :
    x ∈ matchesRank rank l r ↔ x ∈ l ∧ rank x = r := by
  rw [matchesRank, List.mem_filter, beq_iff_eq]

theorem flatMap_matchesRank_perm (rank : σ → Nat) (l : List σ) (r : Nat) :
    ((List.range r).flatMap (matchesRank rank l)).Perm (l.filter fun x => decide (rank x < r)) := by
  induction r with
  | zero => simp
  | succ r ih =>
    rw [List.range_succ, List.flatMap_append, List.flatMap_singleton]
    refine (ih.append_right _).trans ?_
    -- split the members below `r + 1` into those below `r` and the others
    have hs := List.filter_append_perm (fun x => decide (rank x < r))
      (l.filter fun x => decide (rank x < r + 1))
    rw [List.filter_filter, List.filter_filter] at hs
    convert hs using 2
    -- below `r`
    · exact List.filter_congr fun x _ => by
        rw [Bool.eq_iff_iff, Bool.and_eq_true, decide_eq_true_eq, decide_eq_true_eq]
        exact ⟨fun h => ⟨h, Nat.lt_succ_of_lt h⟩, And.left⟩
    -- rank `r`
    · exact List.filter_congr fun x _ => by
        rw [Bool.eq_iff_iff, beq_iff_eq, Bool.and_eq_true, Bool.not_eq_true', decide_eq_false_iff_not,
          decide_eq_true_eq, Nat.not_lt, Nat.lt_succ_iff]
        exact Nat.le_antisymm_iff.trans and_comm

/-- loop invariant: `result` is fronts `0 … r-1`; a round that goes on adds a non-empty front, so the fuel
`l.length + 1` cannot run out (`hfuel`) -/
theorem splitLoop_spec (rank : σ → Nat) (l : List σ) (k fuel r : Nat) (result : List σ)
    (hres : result = (List.range r).flatMap (matchesRank rank l)) (hk : result.length ≤ k)
    (hfuel : l.length < fuel + result.length) :
    ∃ r', (splitLoop rank l k fuel r result).1 = (List.range r').flatMap (matchesRank rank l) ∧
      (splitLoop rank l k fuel r result).1.length ≤ k ∧
      ((splitLoop rank l k fuel r result).2 = [] ∧
          ((splitLoop rank l k fuel r result).1.length = k ∨ matchesRank rank l r' = []) ∨
       ((splitLoop rank l k fuel r result).2 = matchesRank rank l r' ∧
          k < (splitLoop rank l k fuel r result).1.length +
            (splitLoop rank l k fuel r result).2.length)) := by
  fun_induction splitLoop rank l k fuel r result with
  | case1 r result =>
    -- out of fuel: `result.length ≤ l.length`
    rw [Nat.zero_add, hres, (flatMap_matchesRank_perm rank l r).length_eq] at hfuel
    exact absurd (List.length_filter_le _ _) (Nat.not_le.mpr hfuel)
  | case2 fuel r result hlt front hemp =>             -- front `r` empty
    exact ⟨r, hres, hk, .inl ⟨rfl, .inr (List.isEmpty_iff.mp hemp)⟩⟩
  | case3 fuel r result hlt front hemp hfit ih =>     -- front `r` fits
    have hne : front.length ≠ 0 := fun h0 =>
      hemp (List.isEmpty_iff.mpr (List.eq_nil_of_length_eq_zero h0))
    rw [List.length_append] at ih
    exact ih (by rw [List.range_succ, List.flatMap_append, ← hres, List.flatMap_singleton]) hfit
      (Nat.lt_of_lt_of_le hfuel (by
        rw [Nat.succ_add, ← Nat.add_assoc]
        exact Nat.add_le_add_left (Nat.pos_of_ne_zero hne) _))
  | case4 fuel r result hlt front hemp hfit =>        -- front `r` does not fit
    exact ⟨r, hres, hk, .inr ⟨rfl, Nat.lt_of_not_le hfit⟩⟩
  | case5 fuel r result hlt =>                        -- result full
    exact ⟨r, hres, hk, .inl ⟨rfl, .inl (Nat.le_antisymm hk (Nat.le_of_not_lt hlt))⟩⟩

/-- `nondominated_split`: the first component is fronts `0 … r-1` in rank order and fits; the second is
empty, or is the whole front `r`, which does not fit any more -/
theorem split_spec (rank : σ → Nat) (l : List σ) (k : Nat) :
    ∃ r, (nondominatedSplit rank l k).1 = (List.range r).flatMap (matchesRank rank l) ∧
      (nondominatedSplit rank l k).1.length ≤ k ∧
      ((nondominatedSplit rank l k).2 = [] ∧
          ((nondominatedSplit rank l k).1.length = k ∨ matchesRank rank l r = []) ∨
       ((nondominatedSplit rank l k).2 = matchesRank rank l r ∧
          k < (nondominatedSplit rank l k).1.length + (nondominatedSplit rank l k).2.length)) :=
  splitLoop_spec rank l k (l.length + 1) 0 [] rfl (Nat.zero_le _) (Nat.lt_succ_self _)

theorem split_snd_sublist (rank : σ → Nat) (l : List σ) (k : Nat) :
    ∃ r, (nondominatedSplit rank l k).1 = (List.range r).flatMap (matchesRank rank l) ∧
      (nondominatedSplit rank l k).1.length ≤ k ∧
      (nondominatedSplit rank l k).2.Sublist (matchesRank rank l r) := by
  obtain ⟨r, hfirst, hfit, hcut⟩ := split_spec rank l k
  refine ⟨r, hfirst, hfit, ?_⟩
  rcases hcut with ⟨h, _⟩ | ⟨h, _⟩
  · exact h ▸ List.nil_sublist _
  · exact h ▸ List.Sublist.refl _

theorem pruneLoop_subperm {κ : Type} (cd : List σ → List κ) (ge : κ → κ → Bool)
    (hcd : ∀ l, (cd l).length = l.length) (resLen size fuel : Nat) (rem : List σ) :
    (pruneLoop cd ge resLen size fuel rem).Subperm rem := by
  fun_induction pruneLoop cd ge resLen size fuel rem with
  | case1 | case3 => exact .refl _
  | case2 fuel rem hgt keyed sorted ih =>
    have hfst : keyed.map (·.1) = rem := List.map_fst_zip (Nat.le_of_eq (hcd rem).symm)
    exact ih.trans (hfst ▸ ((List.take_sublist _ _).map _).subperm.trans
      ((List.mergeSort_perm keyed _).map _).subperm)

theorem pruneLoop_length {κ : Type} (cd : List σ → List κ) (ge : κ → κ → Bool)
    (hcd : ∀ l, (cd l).length = l.length) {resLen size : Nat} (hres : resLen ≤ size) (fuel : Nat)
    (rem : List σ) (hlen : rem.length ≤ fuel) :
    (pruneLoop cd ge resLen size fuel rem).length = min rem.length (size - resLen) := by
  fun_induction pruneLoop cd ge resLen size fuel rem with
  | case1 rem => rw [Nat.le_zero.mp hlen, Nat.zero_min]
  | case2 fuel rem hgt keyed sorted ih =>
    have hnl : ((sorted.take (rem.length - 1)).map (·.1)).length = rem.length - 1 := by
      rw [List.length_map, List.length_take, List.length_mergeSort, List.length_zip, hcd,
        Nat.min_self]
      exact Nat.min_eq_left (Nat.sub_le _ _)
    -- `rem` overflows: with one member fewer it still fills the room `size - resLen`
    have hlt := Nat.sub_lt_left_of_lt_add hres hgt
    rw [ih (by rw [hnl]; exact Nat.sub_le_of_le_add hlen), hnl, Nat.min_eq_right (Nat.le_sub_one_of_lt hlt),
      Nat.min_eq_right (Nat.le_of_lt hlt)]
  | case3 fuel rem hgt =>
    exact (Nat.min_eq_left (Nat.le_sub_of_add_le' (Nat.le_of_not_lt hgt))).symm

/-- `nondominated_prune` returns the fitting fronts plus part of the cut front, `min` of the target
size and what the split delivered -/
theorem prune_length {κ : Type} (rank : σ → Nat) (cd : List σ → List κ) (ge : κ → κ → Bool)
    (hcd : ∀ l, (cd l).length = l.length) (l : List σ) (k : Nat) :
    (nondominatedPrune rank cd ge l k).length =
      min k ((nondominatedSplit rank l k).1.length + (nondominatedSplit rank l k).2.length) := by
  obtain ⟨_, _, hk, _⟩ := split_spec rank l k
  unfold nondominatedPrune
  generalize nondominatedSplit rank l k = s at hk ⊢
  obtain ⟨result, remaining⟩ := s
  rw [List.length_append, pruneLoop_length cd ge hcd hk _ _ (Nat.le_refl _), ← Nat.add_min_add_left,
    Nat.add_sub_cancel' hk, Nat.min_comm]

/-- … and what it returns from the cut front is a sub-multiset of that front -/
theorem prune_subperm {κ : Type} (rank : σ → Nat) (cd : List σ → List κ) (ge : κ → κ → Bool)
    (hcd : ∀ l, (cd l).length = l.length) (l : List σ) (k : Nat) :
    ∃ kept, nondominatedPrune rank cd ge l k = (nondominatedSplit rank l k).1 ++ kept ∧
      kept.Subperm (nondominatedSplit rank l k).2 := by
  unfold nondominatedPrune
  rcases nondominatedSplit rank l k with ⟨result, remaining⟩
  exact ⟨_, rfl, pruneLoop_subperm cd ge hcd _ _ _ _⟩

end Platypus
