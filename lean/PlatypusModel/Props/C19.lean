import PlatypusModel.Model.Codec
/-!
# C19 — saved solution files read back exactly (JSON-value level)

The decoder model applied to what the encoder model writes returns the same variables, objective and
constraint values in the same order, with violation and feasibility recomputed with respect to the
problem the decoder ends up with: the supplied one, the one restored from a file written from a live
algorithm (repaired hook), or the shape placeholder.  Text ↔ double conversion is CPython's
(`repr` / `float`, exercised by the correspondence on adversarial doubles), not part of the model.
-/
namespace Platypus

mutual
/-- JSON values without objects (what variables / objectives / constraints contain) -/
def Plain : J → Prop
  | .obj _ => False
  | .arr l => PlainList l
  | _ => True
def PlainList : List J → Prop
  | [] => True
  | x :: xs => Plain x ∧ PlainList xs
end

-- a plain `J` as the decoder returns it; under `Plain` the `.obj` case does not occur, its value is arbitrary
mutual
def embed : J → V
  | .null => .null | .bool b => .bool b | .int i => .int i | .num b => .num b | .str s => .str s
  | .arr l => .arr (embedList l)
  | .obj _ => .null
def embedList : List J → List V
  | [] => []
  | x :: xs => embed x :: embedList xs
end

def PlainSol (s : ESol) : Prop := PlainList s.vars ∧ PlainList s.objs ∧ PlainList s.cons

theorem mkSol_vars (p : PDesc) (v o c : List J) : (mkSol p v o c).vars = v := rfl
theorem mkSol_objs (p : PDesc) (v o c : List J) : (mkSol p v o c).objs = o := rfl
theorem mkSol_cons (p : PDesc) (v o c : List J) : (mkSol p v o c).cons = c := rfl

section
variable (fixed : Bool) (parse : String → Option (Op × Float))

/- Pairs by projections: the definitions' own `let (v, st') := …` equations leave `match`es on pairs in the proof term,
under which the kernel evaluates the hook again. -/

theorem decodeJ_arr (l : List J) (st : DState) :
    decodeJ fixed parse (.arr l) st =
      (.arr (decodeList fixed parse l st).1, (decodeList fixed parse l st).2) := rfl

theorem decodeList_cons (x : J) (xs : List J) (st : DState) :
    decodeList fixed parse (x :: xs) st =
      ((decodeJ fixed parse x st).1 :: (decodeList fixed parse xs (decodeJ fixed parse x st).2).1,
        (decodeList fixed parse xs (decodeJ fixed parse x st).2).2) := rfl

mutual
/-- plain values pass through the decoder unchanged and do not touch its state -/
theorem decode_plain (fixed : Bool) (parse : String → Option (Op × Float)) (j : J) (hj : Plain j) (st : DState) :
    decodeJ fixed parse j st = (embed j, st) ∧ vToJ (embed j) = j :=
  match j, hj with
  | .null, _ | .bool _, _ | .int _, _ | .num _, _ | .str _, _ => ⟨rfl, rfl⟩
  | .arr l, h => by
    have := decode_plainList fixed parse l h st
    simp only [decodeJ_arr, embed, vToJ, this.1, this.2, and_self]
  | .obj _, h => h.elim
theorem decode_plainList (fixed : Bool) (parse : String → Option (Op × Float)) :
    (l : List J) → (hj : PlainList l) → (st : DState) →
    decodeList fixed parse l st = (embedList l, st) ∧ vToJList (embedList l) = l
  | [], _, _ => ⟨rfl, rfl⟩
  | x :: xs, h, st => by
    have h1 := decode_plain fixed parse x h.1 st
    have h2 := decode_plainList fixed parse xs h.2 st
    simp only [decodeList_cons, embedList, vToJList, h1.1, h1.2, h2.1, h2.2, and_self]
end

theorem decodeList_plain (l : List J) (h : PlainList l) (st : DState) :
    decodeList fixed parse l st = (embedList l, st) :=
  (decode_plainList fixed parse l h st).1

-- this half does not mention the decoder: it is read off at arbitrary arguments
theorem vToJList_embedList (l : List J) (h : PlainList l) : vToJList (embedList l) = l :=
  (decode_plainList true (fun _ => none) l h { problem := none }).2

@[simp] theorem lookup_nil {β : Type} (k : String) : lookup k ([] : List (String × β)) = none := rfl

@[simp] theorem lookup_cons_self {β : Type} (k : String) (v : β) (kv : List (String × β)) :
    lookup k ((k, v) :: kv) = some v := by simp [lookup]

/-- `k' ≠ k`, not `(k' == k) = false`: between string literals `simp` decides the former by a simproc, the latter by
unfolding `==`, slow to check -/
@[simp] theorem lookup_cons_ne {β : Type} {k k' : String} (h : k' ≠ k) (v : β) (kv : List (String × β)) :
    lookup k ((k', v) :: kv) = lookup k kv := by simp [lookup, h]

theorem hook_other (kv : List (String × V)) (st : DState)
    (hp : lookup "problem" kv = none) (hv : lookup "variables" kv = none) :
    hook fixed parse kv st = (.obj kv, st) := by
  simp only [hook, hp, hv]

theorem hook_solution (vs os cs : V) (st : DState) :
    hook fixed parse [("variables", vs), ("objectives", os), ("constraints", cs)] st =
      let p := st.problem.getD (placeholder (vList vs).length (vList os).length (vList cs).length)
      (.sol (mkSol p (vList vs) (vList os) (vList cs)), { problem := some p }) := by
  cases h : st.problem <;> simp [hook, h]

theorem hook_algorithm_keep (a pv res : V) (q : PDesc) (hq : (fixed && q.inferred) = false) :
    hook fixed parse [("algorithm", a), ("problem", pv), ("result", res)] { problem := some q } =
      (res, { problem := some q }) := by
  simp [hook, hq]

theorem decode_solution_any (s : ESol) (hs : PlainSol s) (st : DState) :
    decodeJ fixed parse (encodeSol s) st =
      let p := st.problem.getD (placeholder s.vars.length s.objs.length s.cons.length)
      (.sol (mkSol p s.vars s.objs s.cons), { problem := some p }) := by
  obtain ⟨h1, h2, h3⟩ := hs
  simp only [encodeSol, decodeJ, decodeMembers, decodeList_plain _ _ _ h1,
    decodeList_plain _ _ _ h2, decodeList_plain _ _ _ h3, hook_solution, vList,
    vToJList_embedList _ h1, vToJList_embedList _ h2, vToJList_embedList _ h3]

/-- one saved solution, decoded while the decoder's problem is `p` -/
theorem decode_solution (fixed : Bool) (parse : String → Option (Op × Float)) (s : ESol) (hs : PlainSol s) (p : PDesc) :
    decodeJ fixed parse (encodeSol s) { problem := some p } =
      (.sol (mkSol p s.vars s.objs s.cons), { problem := some p }) :=
  decode_solution_any fixed parse s hs _

theorem decodeList_sols_supplied (l : List ESol) (hl : ∀ s ∈ l, PlainSol s) (p : PDesc) :
    decodeList fixed parse (l.map encodeSol) { problem := some p } =
      (l.map fun s => .sol (mkSol p s.vars s.objs s.cons), { problem := some p }) := by
  induction l with
  | nil => rfl
  | cons s l ih =>
    rw [List.map_cons, decodeList_cons, decode_solution fixed parse s (hl s List.mem_cons_self) p,
      ih fun t ht => hl t (List.mem_cons_of_mem _ ht)]
    rfl

theorem decodeList_sols_inferred (s : ESol) (l : List ESol) (hl : ∀ t ∈ s :: l, PlainSol t) :
    decodeList fixed parse ((s :: l).map encodeSol) { problem := none } =
      ((s :: l).map fun t => .sol (mkSol (placeholder s.vars.length s.objs.length s.cons.length) t.vars t.objs t.cons),
       { problem := some (placeholder s.vars.length s.objs.length s.cons.length) }) := by
  rw [List.map_cons, decodeList_cons, decode_solution_any fixed parse s (hl s List.mem_cons_self),
    decodeList_sols_supplied fixed parse l fun t ht => hl t (List.mem_cons_of_mem _ ht)]
  rfl

theorem decodeList_strs {α : Type} (f : α → String) (l : List α) (st : DState) :
    decodeList fixed parse (l.map fun x => J.str (f x)) st = (l.map fun x => V.str (f x), st) := by
  induction l with
  | nil => rfl
  | cons x l ih => simp only [List.map_cons, decodeList_cons, decodeJ, ih]

/-- the decoded "problem" member -/
def probV (pname : String) (p : PDesc) (consStr types : List String) : V :=
  .obj [("name", .str pname), ("nvars", .int p.nvars), ("nobjs", .int p.nobjs),
        ("nconstrs", .int p.nconstrs), ("function", .null), ("types", .arr (types.map .str)),
        ("directions", .arr (p.dirs.map fun d => .str (if d then "MAXIMIZE" else "MINIMIZE"))),
        ("constraints", .arr (consStr.map .str))]

theorem pdescOf_probV (pname : String) (p : PDesc) (consStr types : List String) :
    pdescOf parse (probV pname p consStr types) =
      some { p with cons := consStr.filterMap parse, inferred := false } := by
  have hd : p.dirs.map ((fun d => match d with | .str "MAXIMIZE" => true | _ => false) ∘
      fun d => V.str (if d then "MAXIMIZE" else "MINIMIZE")) = p.dirs :=
    (List.map_congr_left fun d _ => by cases d <;> rfl).trans (List.map_id _)
  have hc : consStr.filterMap ((fun c => match c with | .str s => parse s | _ => none) ∘ V.str) =
      consStr.filterMap parse := rfl
  simpa [probV, pdescOf] using ⟨hd, hc⟩

theorem decode_algorithm_members (name pname : String) (nfe : Int) (p : PDesc) (consStr types : List String)
    (result : List ESol) (st : DState) :
    decodeJ fixed parse (encodeAlgorithm name nfe pname p consStr types result) st =
      hook fixed parse [("algorithm", .obj [("name", .str name), ("nfe", .int nfe)]),
        ("problem", probV pname p consStr types),
        ("result", .arr (decodeList fixed parse (result.map encodeSol) st).1)]
        (decodeList fixed parse (result.map encodeSol) st).2 := by
  -- `simp` does not unify `types.map .str` with `l.map fun x => .str (f x)`: hence the instance at `f := id`
  simp [encodeAlgorithm, encodeList, decodeMembers, decodeJ,
    decodeList_strs fixed parse (fun x => x), decodeList_strs, hook_other, probV]

end

/-- **list / archive, problem supplied**: same values, same order, bound to the supplied problem with
violation and feasibility recomputed from its constraint declarations -/
theorem json_roundtrip_list_supplied (fixed : Bool) (parse : String → Option (Op × Float)) (l : List ESol)
    (hl : ∀ s ∈ l, PlainSol s) (p : PDesc) :
    decodeJ fixed parse (encodeList l) { problem := some p } =
      (.arr (l.map fun s => .sol (mkSol p s.vars s.objs s.cons)), { problem := some p }) := by
  rw [encodeList, decodeJ_arr, decodeList_sols_supplied fixed parse l hl p]

/-- **list / archive, no problem supplied**: same values and order; the problem is the placeholder
inferred from the first solution's shape (empty lists read back as empty lists) -/
theorem json_roundtrip_list_inferred (fixed : Bool) (parse : String → Option (Op × Float)) (s : ESol) (l : List ESol)
    (hl : ∀ t ∈ s :: l, PlainSol t) :
    let ph := placeholder s.vars.length s.objs.length s.cons.length
    decodeJ fixed parse (encodeList (s :: l)) { problem := none } =
      (.arr ((s :: l).map fun t => .sol (mkSol ph t.vars t.objs t.cons)), { problem := some ph }) ∧
    decodeJ fixed parse (encodeList []) { problem := none } = (.arr [], { problem := none }) := by
  refine ⟨?_, rfl⟩
  rw [encodeList, decodeJ_arr, decodeList_sols_inferred fixed parse s l hl]

/-- **file written from a live algorithm, no problem supplied, repaired hook**: the problem shape,
directions and constraints are restored from the file and every solution is bound to it, with violation
and feasibility recomputed from the restored declarations.  `hcons`: `pdescOf` reads the declared strings with
`filterMap parse`: a string that `parse` refuses is dropped, where Python raises -/
theorem json_roundtrip_algorithm (parse : String → Option (Op × Float)) (name pname : String) (nfe : Int)
    (p : PDesc) (consStr types : List String) (result : List ESol) (hr : ∀ s ∈ result, PlainSol s)
    (hcons : consStr.filterMap parse = p.cons) (hinf : p.inferred = false) :
    decodeJ true parse (encodeAlgorithm name nfe pname p consStr types result) { problem := none } =
      (.arr (result.map fun s => .sol (mkSol p s.vars s.objs s.cons)), { problem := some p }) := by
  have hp : pdescOf parse (probV pname p consStr types) = some p := by
    rw [pdescOf_probV, hcons, ← hinf]
  rw [decode_algorithm_members]
  cases result with
  -- nothing decoded, the problem still `none`: the hook takes it from the file
  | nil => simp [decodeList, hook, hp]
  | cons s rest =>
    -- the problem is now the placeholder of `s`'s shape, `inferred = true`: the repaired hook takes the one from the
    -- file and re-binds every decoded solution
    rw [decodeList_sols_inferred true parse s rest hr]
    simp [hook, hp, placeholder, mkSol_vars, mkSol_objs, mkSol_cons]

/-- … and with a supplied problem the supplied one is used -/
theorem json_roundtrip_algorithm_supplied (fixed : Bool) (parse : String → Option (Op × Float)) (name pname : String)
    (nfe : Int) (p q : PDesc) (consStr types : List String) (result : List ESol) (hr : ∀ s ∈ result, PlainSol s)
    (hq : q.inferred = false) :
    decodeJ fixed parse (encodeAlgorithm name nfe pname p consStr types result) { problem := some q } =
      (.arr (result.map fun s => .sol (mkSol q s.vars s.objs s.cons)), { problem := some q }) := by
  rw [decode_algorithm_members, decodeList_sols_supplied fixed parse result hr q]
  exact hook_algorithm_keep fixed parse _ _ _ q (by rw [hq, Bool.and_false])

/-- the originally pinned hook (no re-binding): the solutions of a non-empty algorithm file loaded without
a problem stay bound to the placeholder — the saved declarations are lost -/
theorem json_algorithm_pinned_loses_problem (parse : String → Option (Op × Float)) (name pname : String) (nfe : Int)
    (p : PDesc) (consStr types : List String) (s : ESol) (rest : List ESol) (hr : ∀ t ∈ s :: rest, PlainSol t) :
    let ph := placeholder s.vars.length s.objs.length s.cons.length
    decodeJ false parse (encodeAlgorithm name nfe pname p consStr types (s :: rest)) { problem := none } =
      (.arr ((s :: rest).map fun t => .sol (mkSol ph t.vars t.objs t.cons)), { problem := some ph }) := by
  rw [decode_algorithm_members, decodeList_sols_inferred false parse s rest hr]
  exact hook_algorithm_keep false parse _ _ _ _ rfl

end Platypus
