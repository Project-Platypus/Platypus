import PlatypusModel.Model.TimeCont

/-! Scheduling and decision of adaptive time continuation: when `check` is called, when a restart is forced, when none happens. -/
namespace Platypus

/-- the counters stay ordered (so the differences the code computes are never negative) -/
def ExtOrdered (e : ExtState) : Prop := e.lastRestart ≤ e.iteration ∧ e.lastInvocation ≤ e.iteration

section
variable {c : ExtCfg} {e : ExtState} {p a : Nat}

theorem postStep_iteration : (postStep c e p a).1.iteration = e.iteration + 1 := by
  fun_cases postStep c e p a <;> rfl

theorem checkR_iff :
    checkR c e p a = true ↔ c.maxWindow ≤ e.iteration - e.lastRestart ∨
      (c.minPop ≤ c.ratio * a ∧ c.ratio * a ≤ c.maxPop ∧
        c.ratio * a < 4 * (if c.ratio * a ≤ p then p - c.ratio * a else c.ratio * a - p)) := by
  simp only [checkR, Bool.if_true_left, Bool.if_false_right, Bool.and_true, Bool.or_eq_true, decide_eq_true_eq]

end

theorem postStep_ordered (c : ExtCfg) (e : ExtState) (p a : Nat) (h : ExtOrdered e) : ExtOrdered (postStep c e p a).1 := by
  fun_cases postStep c e p a with
  | case1 it hw r =>   -- due (`it`: the new iteration number, `r`: the answer of `check`)
    refine ⟨?_, Nat.le_refl _⟩
    split
    · exact Nat.le_refl _
    · exact Nat.le_succ_of_le h.1
  | case2 it hw => exact ⟨Nat.le_succ_of_le h.1, Nat.le_succ_of_le h.2⟩   -- not due

theorem startRun_ordered (e : ExtState) (h : ExtOrdered e) : ExtOrdered (startRun e) := ⟨h.1, Nat.le_refl _⟩

/-- **`check` is called exactly when `frequency` iterations have passed since the last call (or since the run began)** -/
theorem postStep_checked_iff (c : ExtCfg) (e : ExtState) (p a : Nat) :
    (postStep c e p a).2.1 = true ↔ c.window ≤ e.iteration + 1 - e.lastInvocation := by
  fun_cases postStep c e p a with
  | case1 it hw => exact iff_of_true rfl hw   -- due
  | case2 it hw => exact iff_of_false nofun hw   -- not due

/-- **the decision, spelled out**: a restart follows iff `check` is due and either `max_window_size` iterations have passed since
the last restart, or the target size lies within the allowed range and the population is off it by more than a quarter -/
theorem postStep_restart_iff (c : ExtCfg) (e : ExtState) (p a : Nat) :
    (postStep c e p a).2.2 = true ↔
      c.window ≤ e.iteration + 1 - e.lastInvocation ∧
      (c.maxWindow ≤ e.iteration + 1 - e.lastRestart ∨
        (c.minPop ≤ c.ratio * a ∧ c.ratio * a ≤ c.maxPop ∧
          c.ratio * a < 4 * (if c.ratio * a ≤ p then p - c.ratio * a else c.ratio * a - p))) := by
  fun_cases postStep c e p a with
  | case1 it hw => rw [and_iff_right hw]; exact checkR_iff   -- due: the answer of `check`
  | case2 it hw => exact iff_of_false nofun (fun h => hw h.1)   -- not due

/-- a restart only ever follows a call of `check` -/
theorem postStep_restart_checked (c : ExtCfg) (e : ExtState) (p a : Nat) (h : (postStep c e p a).2.2 = true) :
    (postStep c e p a).2.1 = true :=
  (postStep_checked_iff c e p a).mpr ((postStep_restart_iff c e p a).mp h).1

/-- a population that already has the target size is left alone until the maximal window is used up -/
theorem no_restart_on_target (c : ExtCfg) (e : ExtState) (a : Nat) (hm : e.iteration + 1 - e.lastRestart < c.maxWindow) :
    (postStep c e (c.ratio * a) a).2.2 = false := by
  refine Bool.eq_false_iff.mpr fun hb => ?_
  rcases ((postStep_restart_iff c e (c.ratio * a) a).mp hb).2 with h | ⟨_, _, h⟩
  · exact Nat.not_le_of_lt hm h
  · rw [if_pos (Nat.le_refl _), Nat.sub_self] at h; exact Nat.not_lt_zero _ h

/-- what holds between the iterations of one `run` call: the next `check` is less than `frequency` iterations away, and at the
last `check` fewer than `max_window_size` iterations had passed since the last restart -/
def ExtInv (c : ExtCfg) (e : ExtState) : Prop :=
  e.lastRestart ≤ e.lastInvocation ∧ e.lastInvocation ≤ e.iteration ∧ e.iteration - e.lastInvocation < c.window ∧
    e.lastInvocation - e.lastRestart < c.maxWindow
-- `startRun` (the next `run` call) does not preserve `ExtInv`: it moves `lastInvocation` up without a `check`, and the last
-- clause can fail (window 3, maxWindow 2, iteration 3, lastInvocation 1, lastRestart 0).

/-- the iterations since the last restart are those up to the last `check` plus those since -/
theorem ExtInv.gap {c : ExtCfg} {e : ExtState} (h : ExtInv c e) :
    e.iteration - e.lastRestart + 1 < c.maxWindow + c.window := by
  obtain ⟨hrest, hinv, hwin, hmax⟩ := h
  rw [← Nat.sub_add_sub_cancel hinv hrest, Nat.add_comm c.maxWindow, Nat.add_assoc]
  exact Nat.add_lt_add_of_lt_of_le hwin hmax

theorem postStep_inv (c : ExtCfg) (hw1 : 1 ≤ c.window) (hm1 : 1 ≤ c.maxWindow) (e : ExtState) (p a : Nat) (h : ExtInv c e) :
    ExtInv c (postStep c e p a).1 := by
  obtain ⟨hrest, hinv, _, hmax⟩ := h
  fun_cases postStep c e p a with
  | case1 it hw r =>   -- due, `check` answers `r`
    cases hr : r with
    | true => exact ⟨Nat.le_refl _, Nat.le_refl _, by rw [Nat.sub_self]; exact hw1, by rw [if_pos rfl, Nat.sub_self]; exact hm1⟩
    | false =>
      -- `check` said no: the maximal window was not used up
      have hnot : ¬c.maxWindow ≤ e.iteration + 1 - e.lastRestart := fun hmw =>
        Bool.false_ne_true (hr ▸ checkR_iff.mpr (.inl hmw))
      exact ⟨Nat.le_succ_of_le (Nat.le_trans hrest hinv), Nat.le_refl _, by rw [Nat.sub_self]; exact hw1, Nat.lt_of_not_le hnot⟩
  | case2 it hw => exact ⟨hrest, Nat.le_succ_of_le hinv, Nat.lt_of_not_le hw, hmax⟩   -- not due

/-- **restarts cannot be postponed indefinitely**: within one `run` call that starts in a state with `ExtInv` (the fresh
extension has it), fewer than `max_window_size + frequency − 1` iterations ever pass without a restart — whatever the
population and archive sizes are -/
theorem restart_gap_bounded (c : ExtCfg) (hw1 : 1 ≤ c.window) (hm1 : 1 ≤ c.maxWindow) (sizes : List (Nat × Nat)) (e : ExtState)
    (h : ExtInv c e) :
    let e' := sizes.foldl (fun s pa => (postStep c s pa.1 pa.2).1) e
    ExtInv c e' ∧ e'.iteration - e'.lastRestart + 1 < c.maxWindow + c.window ∧ e'.iteration = e.iteration + sizes.length := by
  induction sizes generalizing e with
  | nil => exact ⟨h, h.gap, rfl⟩
  | cons pa rest ih =>
    obtain ⟨i1, i2, i3⟩ := ih (postStep c e pa.1 pa.2).1 (postStep_inv c hw1 hm1 e pa.1 pa.2 h)
    exact ⟨i1, i2, by rw [List.foldl_cons, i3, postStep_iteration, List.length_cons, Nat.add_assoc, Nat.add_comm 1]⟩

/-! non-vacuity, and the numbers of the traced configuration (window 3, max window 6, ratio 2, sizes 4..12) -/
example : ExtInv { window := 3, maxWindow := 6, ratio := 2, minPop := 4, maxPop := 12 } { iteration := 0, lastInvocation := 0, lastRestart := 0 } := by
  simp [ExtInv]

example : let c : ExtCfg := { window := 3, maxWindow := 6, ratio := 2, minPop := 4, maxPop := 12 }
    ((postStep c { iteration := 2, lastInvocation := 0, lastRestart := 0 } 6 3).2,      -- due, on target: no restart
     (postStep c { iteration := 2, lastInvocation := 0, lastRestart := 0 } 6 5).2,      -- due, target 10, off by 4 > 2.5: restart
     (postStep c { iteration := 1, lastInvocation := 0, lastRestart := 0 } 6 5).2,      -- not due
     (postStep c { iteration := 5, lastInvocation := 3, lastRestart := 0 } 6 3).2,      -- due, max window reached: restart
     (postStep c { iteration := 2, lastInvocation := 0, lastRestart := 0 } 6 8).2)      -- due, target 16 outside [4, 12]: no restart
    = ((true, false), (true, true), (false, false), (true, true), (true, false)) := by decide

end Platypus
