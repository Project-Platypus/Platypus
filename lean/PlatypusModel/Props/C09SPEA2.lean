import PlatypusModel.Model.SPEA2
import PlatypusModel.Lemmas.Survival
/-!
# C09 — SPEA2's environmental selection as computed on doubles

`Model/SPEA2.lean` is the literal transcription of `_truncate` with the distance matrix (tied to the code bit for
bit by the correspondence check).  These theorems are about that concrete function, for **arbitrary** fitness
values: no arithmetic on doubles is used, only which members have `fitness < 1.0` (the "good" ones).  That these are the
non-dominated ones is not proved (`spea2_raw_zero_iff` in `Props/C09` is about the specification `spea2Raw`).
-/
namespace Platypus

/-- the distance-matrix rows stay in step with the member list -/
theorem dmRows_length (pts : List (List Float)) : (dmRows pts).length = pts.length := by
  unfold dmRows
  rw [List.length_map, List.length_zipIdx]

theorem removePoint_length (rows : List (List (Nat × Float))) (i : Nat) (hi : i < rows.length) :
    (removePoint rows i).length = rows.length - 1 := by
  unfold removePoint
  rw [List.length_map, List.length_eraseIdx, if_pos hi]

theorem ite_idx_lt {n : Nat} {c : Prop} [Decidable c] {a b : Float × Option Nat}
    (ha : ∀ k, a.2 = some k → k < n) (hb : ∀ k, b.2 = some k → k < n) :
    ∀ k, (if c then a else b).2 = some k → k < n := by
  split <;> assumption

/-- `find_most_crowded` returns a valid index -/
theorem findMostCrowded_lt (rows : List (List (Nat × Float))) (m : Nat) (h : findMostCrowded rows = some m) :
    m < rows.length := by
  unfold findMostCrowded at h
  refine List.foldlRecOn (motive := fun st : Float × Option Nat => ∀ k, st.2 = some k → k < rows.length)
    rows.zipIdx _ (fun _ hk => by cases hk) ?_ m h
  -- every branch of a step returns the old state or the position it is visiting
  rintro ⟨d, o⟩ hst ⟨row, i⟩ hri
  have hnew : ∀ x : Float, ∀ k, ((x, some i) : Float × Option Nat).2 = some k → k < rows.length :=
    fun _ _ e => Option.some.inj e ▸ (List.mem_zipIdx' hri).1
  cases row with
  | nil => exact hst
  | cons d0 _ =>
    -- `if d0 < d then new else if d0 == d then (none ↦ old | some _ ↦ if rowWins … then new else old) else old`
    cases o with
    | none => exact ite_idx_lt (hnew _) (ite_idx_lt hst hst)
    | some c => exact ite_idx_lt (hnew _) (ite_idx_lt (ite_idx_lt (hnew _) hst) hst)

/-- the deletion loop only deletes: the result is a sublist of its input -/
theorem reduceLoop_sublist (fuel : Nat) (l : List (Sol Float)) (rows : List (List (Nat × Float))) (size : Nat) :
    (reduceLoop fuel l rows size).Sublist l := by
  fun_induction reduceLoop fuel l rows size with
  | case1 | case4 => exact .refl _
  -- a round deletes member `m`, or the last one when `findMostCrowded` finds none
  | case2 fuel l rows size hgt m hm ih | case3 fuel l rows size hgt hm ih => exact ih.trans (List.eraseIdx_sublist _ _)

theorem reduce_round {fuel size i : Nat} {l : List (Sol Float)} {rows : List (List (Nat × Float))}
    (hrows : rows.length = l.length) (hi : i < l.length) (hfuel : l.length ≤ fuel + 1 + size)
    (hgt : size < l.length) :
    (removePoint rows i).length = (l.eraseIdx i).length ∧ (l.eraseIdx i).length ≤ fuel + size ∧
      size ≤ (l.eraseIdx i).length := by
  rw [removePoint_length rows i (hrows ▸ hi), List.length_eraseIdx_of_lt hi, hrows]
  exact ⟨rfl, Nat.sub_le_of_le_add (Nat.add_right_comm fuel 1 size ▸ hfuel), Nat.le_sub_one_of_lt hgt⟩

/-- with rows in step and enough fuel the loop stops at exactly `size` members -/
theorem reduceLoop_length (fuel : Nat) (l : List (Sol Float)) (rows : List (List (Nat × Float))) (size : Nat)
    (hrows : rows.length = l.length) (hfuel : l.length ≤ fuel + size) (hsize : size ≤ l.length) :
    (reduceLoop fuel l rows size).length = size := by
  fun_induction reduceLoop fuel l rows size with
  | case1 =>
    rw [Nat.zero_add] at hfuel
    exact Nat.le_antisymm hfuel hsize
  | case2 fuel l rows size hgt m hm ih =>
    obtain ⟨hrows', hfuel', hsize'⟩ := reduce_round hrows (hrows ▸ findMostCrowded_lt rows m hm) hfuel hgt
    exact ih hrows' hfuel' hsize'
  | case3 fuel l rows size hgt hm ih =>
    obtain ⟨hrows', hfuel', hsize'⟩ := reduce_round hrows (Nat.sub_one_lt_of_lt hgt) hfuel hgt
    exact ih hrows' hfuel' hsize'
  | case4 fuel l rows size hgt => exact Nat.le_antisymm (Nat.le_of_not_lt hgt) hsize

/-- the members with `fitness < 1.0` -/
def goodOnes (sols : List (Sol Float)) (fit : List Float) : List (Sol Float) :=
  ((sols.zip fit).filter fun p => p.2 < 1.0).map (·.1)

theorem goodOnes_subset (sols : List (Sol Float)) (fit : List Float) :
    ∀ s ∈ goodOnes sols fit, s ∈ sols := by
  intro s hs
  unfold goodOnes at hs
  obtain ⟨p, hp, rfl⟩ := List.mem_map.1 hs
  exact (List.of_mem_zip (List.mem_filter.mp hp).1).1

theorem spea2TruncateF_shape (sols : List (Sol Float)) (fit : List Float) (size : Nat) :
    FillOrReduce (goodOnes sols fit) (spea2TruncateF sols fit size) size := by
  fun_cases spea2TruncateF sols fit size with
  | case1 tagged survivors hlt remaining =>      -- fewer good members than `size`: filled up
    exact ⟨fun _ => ⟨_, rfl, by rw [List.length_map, List.length_take]; exact Nat.min_le_left _ _⟩,
      fun hge => absurd hlt (Nat.not_lt.mpr hge)⟩
  | case2 tagged survivors hge =>                -- otherwise: reduced
    exact ⟨fun hlt => absurd hlt hge, fun hge => ⟨reduceLoop_sublist _ _ _ _, reduceLoop_length _ _ _ _
      (by rw [dmRows_length, List.length_map]) (Nat.le_add_right _ _) hge⟩⟩

/-- every survivor was a candidate -/
theorem spea2TruncateF_subset (sols : List (Sol Float)) (fit : List Float) (size : Nat) :
    ∀ s ∈ spea2TruncateF sols fit size, s ∈ sols := by
  fun_cases spea2TruncateF sols fit size with
  | case1 tagged survivors hlt remaining =>
    intro s hs
    rcases List.mem_append.1 hs with h | h
    · exact goodOnes_subset sols fit s h
    · obtain ⟨p, hp, rfl⟩ := List.mem_map.1 h
      have hrem := List.mem_mergeSort.1 (List.mem_of_mem_take hp)
      exact (List.of_mem_zip (List.mem_filter.mp hrem).1).1
  | case2 tagged survivors hge =>
    exact fun s hs => goodOnes_subset sols fit s ((reduceLoop_sublist _ _ _ _).subset hs)

/-- the population never exceeds `size` -/
theorem spea2TruncateF_length_le (sols : List (Sol Float)) (fit : List Float) (size : Nat) :
    (spea2TruncateF sols fit size).length ≤ size :=
  (spea2TruncateF_shape sols fit size).length_le

/-- if the good members fit they all survive -/
theorem spea2TruncateF_keeps_good (sols : List (Sol Float)) (fit : List Float) (size : Nat)
    (hfit : (goodOnes sols fit).length ≤ size) :
    ∀ s ∈ goodOnes sols fit, s ∈ spea2TruncateF sols fit size :=
  (spea2TruncateF_shape sols fit size).keeps hfit

/-- if the good members overflow, exactly `size` members survive and all of them are good -/
theorem spea2TruncateF_only_good (sols : List (Sol Float)) (fit : List Float) (size : Nat)
    (hover : size ≤ (goodOnes sols fit).length) :
    (spea2TruncateF sols fit size).length = size ∧ ∀ s ∈ spea2TruncateF sols fit size, s ∈ goodOnes sols fit :=
  ⟨((spea2TruncateF_shape sols fit size).reduce hover).2, (spea2TruncateF_shape sols fit size).only hover⟩

end Platypus
