import PlatypusModel.Model.Grid
import PlatypusModel.Props.C03
import PlatypusModel.Props.C04
import PlatypusModel.Lemmas.Grid
import Mathlib.Data.List.Induction
import Mathlib.Data.List.Nodup
/-!
# C14 — adaptive grid archive: capacity, mutual non-dominance, occupancy bookkeeping

For every cell function (`cell`, the arithmetic of `find_index`, is a parameter), every comparator that
is antisymmetric with transitive dominance, every capacity ≥ 1, every insertion history of distinct
objects.  Of the population-size clauses only the two facts about truncation are here; the sizes after a step of
the algorithm classes are in `Props/C08Gen.lean`.
-/
namespace Platypus

variable {σ β : Type}

def occ (cfg : GridCfg σ β) (g : GridArchive σ β) (m : σ) : Nat := densAt g.density (cfg.cell g.bounds m)

/-- the reported occupancy of every cell equals the number of members lying in it -/
def DensityCorrect (cfg : GridCfg σ β) (g : GridArchive σ β) : Prop :=
  g.density.length = cfg.ncells ∧
  ∀ c, c < cfg.ncells → g.density.getD c 0 = (g.contents.filter (fun m => cfg.cell g.bounds m == some c)).length

def MembersInside (cfg : GridCfg σ β) (g : GridArchive σ β) : Prop :=
  ∀ m ∈ g.contents, ∃ c, c < cfg.ncells ∧ cfg.cell g.bounds m = some c

/-- `fixed`: the `add` that re-adapts the grid when the newcomer evicts members (Model/Grid.lean) -/
structure GoodCfg (cfg : GridCfg σ β) : Prop where
  cmp : StrictCmp cfg.cmp
  cap : 1 ≤ cfg.capacity
  fixed : cfg.adaptOnEvict = true
  /-- true of `find_index`: the bounds are the members' min/max (`findIndex_inside`) -/
  inside : ∀ (contents : List σ) (m : σ), m ∈ contents →
    ∃ c, c < cfg.ncells ∧ cfg.cell (cfg.mkBounds contents) m = some c
  /-- true of `find_index`: every digit is `< divisions`.  Needed because `add` looks the newcomer up against the
  *old* bounds, which `inside` does not cover. -/
  range : ∀ (b : β) (m : σ) (c : Nat), cfg.cell b m = some c → c < cfg.ncells

structure Inv (cfg : GridCfg σ β) (g : GridArchive σ β) : Prop where
  density : DensityCorrect cfg g
  inside : MembersInside cfg g
  capacity : g.contents.length ≤ cfg.capacity
  nondom : ∀ a ∈ g.contents, ∀ b ∈ g.contents, ¬ cfg.cmp a b < 0
  -- `remove` finds its victim by id (`eraseId`): with two members of one id it may take out another than the one
  -- whose cell it counts down.  Hence `Nodup` in `aga_invariant`: an object offered twice is not covered.
  nodup : (g.contents.map cfg.getId).Nodup

theorem densityCorrect_append_singleton {cfg : GridCfg σ β} {g : GridArchive σ β} (hd : DensityCorrect cfg g)
    {s : σ} {i : Nat} (hi : cfg.cell g.bounds s = some i) :
    DensityCorrect cfg { g with contents := g.contents ++ [s], density := densUpd g.density (some i) (· + 1) } := by
  obtain ⟨hlen, hcount⟩ := hd
  refine ⟨(densUpd_length g.density (some i) _).trans hlen, fun c hc => ?_⟩
  rw [getD_densUpd_some _ _ _ _ (hlen ▸ hc), hcount c hc]
  show _ = ((g.contents ++ [s]).filter _).length
  rw [List.filter_append, List.length_append]
  by_cases h : i = c <;> simp [h, hi]

theorem densityCorrect_erase {cfg : GridCfg σ β} {g : GridArchive σ β} (hd : DensityCorrect cfg g) {p : σ}
    (hp : p ∈ g.contents) (hn : (g.contents.map cfg.getId).Nodup) {i : Nat} (hi : cfg.cell g.bounds p = some i) :
    DensityCorrect cfg { g with contents := eraseId cfg.getId p g.contents,
                                density := densUpd g.density (some i) (· - 1) } := by
  obtain ⟨hlen, hcount⟩ := hd
  refine ⟨(densUpd_length g.density (some i) _).trans hlen, fun c hc => ?_⟩
  rw [getD_densUpd_some _ _ _ _ (hlen ▸ hc), hcount c hc,
    ((perm_cons_eraseId cfg.getId p g.contents hp hn).filter _).length_eq, List.filter_cons, hi]
  by_cases h : i = c <;> simp [h]

theorem densityCorrect_foldl (cfg : GridCfg σ β) (b : β) (l : List σ)
    (hl : ∀ m ∈ l, ∃ c, c < cfg.ncells ∧ cfg.cell b m = some c) :
    DensityCorrect cfg ⟨l, b, l.foldl (fun d s => densUpd d (cfg.cell b s) (· + 1)) (List.replicate cfg.ncells 0)⟩ := by
  induction l using List.reverseRecOn with
  | nil => exact ⟨List.length_replicate, fun c hc => by simp [hc]⟩
  | append_singleton pre s ih =>
    obtain ⟨i, -, hi⟩ := hl s (by simp)
    rw [List.foldl_append, List.foldl_cons, List.foldl_nil, hi]
    exact densityCorrect_append_singleton (ih fun m hm => hl m (List.mem_append_left _ hm)) hi

theorem adaptGrid_density (cfg : GridCfg σ β) (h : GoodCfg cfg) (contents : List σ) :
    DensityCorrect cfg (adaptGrid cfg contents) ∧ MembersInside cfg (adaptGrid cfg contents) :=
  ⟨densityCorrect_foldl cfg _ contents (h.inside contents), h.inside contents⟩

section
variable (cfg : GridCfg σ β) (g : GridArchive σ β) (s : σ)

theorem gridRemove_contents : (gridRemove cfg g s).contents = eraseId cfg.getId s g.contents := by
  fun_cases gridRemove cfg g s with
  | case1 => rfl -- counted down
  | case2 => rfl -- re-adapted
  | case3 hany =>
    -- no member has the id
    rw [eraseId_eq_eraseP, List.eraseP_of_forall_not fun m hm hid => hany (List.any_eq_true.mpr ⟨m, hm, hid⟩)]

theorem gridRemove_density_inside (h : GoodCfg cfg) (hs : s ∈ g.contents) (hd : DensityCorrect cfg g)
    (hin : MembersInside cfg g) (hn : (g.contents.map cfg.getId).Nodup) :
    DensityCorrect cfg (gridRemove cfg g s) ∧ MembersInside cfg (gridRemove cfg g s) := by
  fun_cases gridRemove cfg g s with
  | case1 hany c i hgt =>
    -- counted down; `i` is the cell of `s`
    obtain ⟨k, -, hcell⟩ := hin s hs
    rw [show i = some k from hcell]
    exact ⟨densityCorrect_erase hd hs hn hcell, fun m hm => hin m ((eraseId_sublist ..).subset hm)⟩
  | case2 => exact adaptGrid_density cfg h _ -- re-adapted
  | case3 hany => exact absurd (List.any_eq_true.mpr ⟨s, hs, beq_self_eq_true (cfg.getId s)⟩) hany

/-- `g1` of `gridAdd`: the members that tie with `s` (none dominates `s` here, so the others are dominated by it) -/
def gridEvict : GridArchive σ β :=
  if cfg.adaptOnEvict && (g.contents.filter (fun m => cfg.cmp s m = 0)).length < g.contents.length then
    adaptGrid cfg (g.contents.filter (fun m => cfg.cmp s m = 0))
  else { g with contents := g.contents.filter (fun m => cfg.cmp s m = 0) }

/-- `g2` of `gridAdd` (there over `g1`) -/
def gridAppend : GridArchive σ β :=
  match cfg.cell g.bounds s with
  | none => adaptGrid cfg (g.contents ++ [s])
  | some i => { g with contents := g.contents ++ [s], density := densUpd g.density (some i) (· + 1) }

/-- the last `if` of `gridAdd` (there over `g2`) -/
def gridTrim : GridArchive σ β × Bool :=
  if densAt g.density (cfg.cell g.bounds s) == densAt g.density (findDensest cfg g) then
    (gridRemove cfg g s, false)
  else match pickFromDensest cfg g with
    | some p => (gridRemove cfg g p, true)
    | none => (g, true)

theorem gridAdd_eq :
    gridAdd cfg g s =
      if g.contents.any (fun m => cfg.cmp s m > 0) then (g, false)
      else if (gridEvict cfg g s).contents.isEmpty then (adaptGrid cfg [s], true)
      else if ((gridEvict cfg g s).contents ++ [s]).length ≤ cfg.capacity then
        (gridAppend cfg (gridEvict cfg g s) s, true)
      else gridTrim cfg (gridAppend cfg (gridEvict cfg g s) s) s := by
  -- `add` looks the newcomer's cell up once; where it was found at once, appending it left the bounds alone
  have hcell : (match cfg.cell (gridEvict cfg g s).bounds s with
      | none => cfg.cell (gridAppend cfg (gridEvict cfg g s) s).bounds s
      | some i => some i) = cfg.cell (gridAppend cfg (gridEvict cfg g s) s).bounds s := by
    unfold gridAppend
    split
    · rfl
    · next i hi => exact hi.symm
  unfold gridTrim
  rw [← hcell]
  rfl

theorem gridEvict_contents : (gridEvict cfg g s).contents = g.contents.filter (fun m => cfg.cmp s m = 0) := by
  unfold gridEvict; split <;> rfl

theorem gridAppend_contents : (gridAppend cfg g s).contents = g.contents ++ [s] := by
  unfold gridAppend; split <;> rfl

theorem gridEvict_density_inside (h : GoodCfg cfg) (hd : DensityCorrect cfg g) (hin : MembersInside cfg g) :
    DensityCorrect cfg (gridEvict cfg g s) ∧ MembersInside cfg (gridEvict cfg g s) := by
  unfold gridEvict
  split
  · exact adaptGrid_density cfg h _
  · rename_i hc
    -- nobody left: the filter is the identity
    rw [h.fixed, Bool.true_and, decide_eq_true_eq, Nat.not_lt] at hc
    rw [List.filter_eq_self.mpr (List.length_filter_eq_length_iff.mp (Nat.le_antisymm (List.length_filter_le ..) hc))]
    exact ⟨hd, hin⟩

theorem gridAppend_density_inside (h : GoodCfg cfg) (hd : DensityCorrect cfg g) (hin : MembersInside cfg g) :
    DensityCorrect cfg (gridAppend cfg g s) ∧ MembersInside cfg (gridAppend cfg g s) := by
  unfold gridAppend
  split
  · exact adaptGrid_density cfg h _
  · rename_i i hcell
    refine ⟨densityCorrect_append_singleton hd hcell, fun m hm => ?_⟩
    rcases List.mem_append.mp hm with hm | hm
    · exact hin m hm
    · rw [List.mem_singleton.mp hm]
      exact ⟨i, h.range _ _ _ hcell, hcell⟩

theorem mem_gridAppend : s ∈ (gridAppend cfg g s).contents :=
  gridAppend_contents cfg g s ▸ List.mem_append_right _ (List.mem_singleton_self s)

theorem gridAppend_gridEvict_contents :
    (gridAppend cfg (gridEvict cfg g s) s).contents = g.contents.filter (fun m => cfg.cmp s m = 0) ++ [s] := by
  rw [gridAppend_contents, gridEvict_contents]

theorem gridTrim_spec (hs : s ∈ g.contents) :
    ∃ p ∈ g.contents, (∀ m ∈ g.contents, occ cfg g m ≤ occ cfg g p) ∧
      (gridTrim cfg g s).1 = gridRemove cfg g p ∧ ((gridTrim cfg g s).2 = false ↔ p = s) := by
  obtain ⟨p, hp, hmax, hpick⟩ := pickFromDensest_spec cfg g (List.ne_nil_of_mem hs)
  unfold gridTrim
  rw [findDensest_eq, hpick, Option.bind_some]
  split
  · rename_i hbr
    exact ⟨s, hs, fun m hm => (hmax m hm).trans_eq (beq_iff_eq.mp hbr).symm, rfl, iff_of_true rfl rfl⟩
  · rename_i hbr
    -- the newcomer's own cell is not a densest one, so the member picked is not the newcomer
    exact ⟨p, hp, hmax, rfl, iff_of_false Bool.noConfusion fun hps => hbr (hps ▸ beq_self_eq_true _)⟩

@[elab_as_elim]
theorem gridAdd_cases {P : GridArchive σ β × Bool → Prop}
    (dominated : g.contents.any (fun m => cfg.cmp s m > 0) = true → P (g, false))
    (first : (gridEvict cfg g s).contents = [] → P (adaptGrid cfg [s], true))
    (fits : ((gridEvict cfg g s).contents ++ [s]).length ≤ cfg.capacity →
      P (gridAppend cfg (gridEvict cfg g s) s, true))
    (overflow : ¬ ((gridEvict cfg g s).contents ++ [s]).length ≤ cfg.capacity →
      P (gridTrim cfg (gridAppend cfg (gridEvict cfg g s) s) s)) :
    P (gridAdd cfg g s) :=
  gridAdd_eq cfg g s ▸ iteInduction dominated fun _ =>
    iteInduction (fun hemp => first (List.isEmpty_iff.mp hemp)) fun _ => iteInduction fits overflow

end

theorem inv_init (cfg : GridCfg σ β) (h : GoodCfg cfg) : Inv cfg (gridInit cfg) :=
  { density := (adaptGrid_density cfg h []).1, inside := (adaptGrid_density cfg h []).2,
    capacity := Nat.zero_le _, nondom := nofun, nodup := List.nodup_nil }

theorem inv_singleton (cfg : GridCfg σ β) (h : GoodCfg cfg) (s : σ) : Inv cfg (adaptGrid cfg [s]) := by
  obtain ⟨hd, hin⟩ := adaptGrid_density cfg h [s]
  refine { density := hd, inside := hin, capacity := h.cap, nondom := ?_, nodup := List.nodup_singleton _ }
  intro a ha b hb
  rw [List.mem_singleton.mp ha, List.mem_singleton.mp hb, h.cmp.irrefl]
  exact Int.lt_irrefl 0

/-- `DensityCorrect` and `MembersInside` do not mention the capacity: those of `cfg` are, by unfolding, those of the
configuration with one more place. -/
theorem inv_gridAppend (cfg : GridCfg σ β) (h : GoodCfg cfg) (g : GridArchive σ β) (s : σ)
    (hg : Inv cfg g) (hnew : ∀ m ∈ g.contents, cfg.getId m ≠ cfg.getId s) :
    Inv { cfg with capacity := cfg.capacity + 1 } (gridAppend cfg (gridEvict cfg g s) s) := by
  obtain ⟨hd1, hin1⟩ := gridEvict_density_inside cfg g s h hg.density hg.inside
  obtain ⟨hd2, hin2⟩ := gridAppend_density_inside cfg _ s h hd1 hin1
  have hkept : ∀ m ∈ g.contents.filter (fun m => cfg.cmp s m = 0), m ∈ g.contents ∧ cfg.cmp s m = 0 :=
    fun m hm => ⟨(List.mem_filter.mp hm).1, of_decide_eq_true (List.mem_filter.mp hm).2⟩
  refine { density := hd2, inside := hin2, capacity := ?capacity, nondom := ?nondom, nodup := ?nodup }
  case capacity =>
    rw [gridAppend_gridEvict_contents, List.length_append]
    exact Nat.add_le_add_right (Nat.le_trans (List.length_filter_le ..) hg.capacity) 1
  case nondom =>
    rw [gridAppend_gridEvict_contents]
    -- (member, member), (`s`, member), (member, `s`), (`s`, `s`): but for the first the comparison is a tie
    simp only [List.mem_append, List.mem_singleton, or_imp, forall_and, forall_eq]
    refine ⟨⟨fun a ha b hb => hg.nondom a (hkept a ha).1 b (hkept b hb).1, fun b hb => ?_⟩, fun a ha => ?_, ?_⟩
    · rw [(hkept b hb).2]
      exact Int.lt_irrefl 0
    · rw [h.cmp.antisymm s a, (hkept a ha).2]
      exact Int.lt_irrefl 0
    · rw [h.cmp.irrefl]
      exact Int.lt_irrefl 0
  case nodup =>
    rw [gridAppend_gridEvict_contents, List.map_append, List.nodup_append]
    refine ⟨(List.filter_sublist.map _).nodup hg.nodup, List.nodup_singleton _, ?_⟩
    intro x hx y hy
    obtain ⟨m, hm, rfl⟩ := List.mem_map.mp hx
    rw [List.mem_singleton.mp hy]
    exact hnew m (hkept m hm).1

theorem inv_remove (cfg : GridCfg σ β) (h : GoodCfg cfg) (g2 : GridArchive σ β) (p : σ)
    (h2 : Inv { cfg with capacity := cfg.capacity + 1 } g2) (hp : p ∈ g2.contents) :
    Inv cfg (gridRemove cfg g2 p) := by
  obtain ⟨hd, hin⟩ := gridRemove_density_inside cfg g2 p h hp h2.density h2.inside h2.nodup
  have hsub : (gridRemove cfg g2 p).contents.Sublist g2.contents :=
    gridRemove_contents cfg g2 p ▸ eraseId_sublist ..
  refine { density := hd, inside := hin, capacity := ?_,
           nondom := fun a ha b hb => h2.nondom a (hsub.subset ha) b (hsub.subset hb),
           nodup := (hsub.map _).nodup h2.nodup }
  rw [gridRemove_contents]
  exact Nat.le_of_succ_le_succ
    ((perm_cons_eraseId cfg.getId p g2.contents hp h2.nodup).length_eq.symm.trans_le h2.capacity)

/-- one insertion of an object not already held preserves the invariant -/
theorem inv_step (cfg : GridCfg σ β) (h : GoodCfg cfg) (g : GridArchive σ β) (s : σ) (hg : Inv cfg g)
    (hnew : ∀ m ∈ g.contents, cfg.getId m ≠ cfg.getId s) : Inv cfg (gridAdd cfg g s).1 := by
  have h2 := inv_gridAppend cfg h g s hg hnew
  refine gridAdd_cases cfg g s (fun _ => hg) (fun _ => inv_singleton cfg h s)
    (fun hfit => { h2 with capacity := gridAppend_contents cfg _ s ▸ hfit }) fun _ => ?_
  obtain ⟨p, hp, -, he, -⟩ := gridTrim_spec cfg _ s (mem_gridAppend cfg (gridEvict cfg g s) s)
  exact he ▸ inv_remove cfg h _ p h2 hp

/-- members of the result were offered (or were members before) -/
theorem gridAdd_contents_subset (cfg : GridCfg σ β) (g : GridArchive σ β) (s : σ) :
    ∀ m ∈ (gridAdd cfg g s).1.contents, m ∈ g.contents ∨ m = s := by
  have hc2 : ∀ m ∈ (gridAppend cfg (gridEvict cfg g s) s).contents, m ∈ g.contents ∨ m = s := by
    intro m hm
    rw [gridAppend_gridEvict_contents] at hm
    exact (List.mem_append.mp hm).imp (fun hm => (List.mem_filter.mp hm).1) List.mem_singleton.mp
  refine gridAdd_cases cfg g s (fun _ m hm => Or.inl hm) (fun _ m hm => Or.inr (List.mem_singleton.mp hm))
    (fun _ => hc2) ?_
  intro _ m hm
  obtain ⟨p, -, -, he, -⟩ := gridTrim_spec cfg _ s (mem_gridAppend cfg (gridEvict cfg g s) s)
  rw [he, gridRemove_contents] at hm
  exact hc2 m ((eraseId_sublist ..).subset hm)

theorem gridRun_append_singleton (cfg : GridCfg σ β) (pre : List σ) (s : σ) :
    gridRun cfg (pre ++ [s]) = (gridAdd cfg (gridRun cfg pre) s).1 :=
  List.foldl_concat ..

theorem gridRun_contents_subset (cfg : GridCfg σ β) (xs : List σ) : ∀ m ∈ (gridRun cfg xs).contents, m ∈ xs := by
  induction xs using List.reverseRecOn with
  | nil => exact fun _ hm => hm
  | append_singleton pre s ih =>
    intro m hm
    rw [gridRun_append_singleton] at hm
    exact List.mem_append.mpr ((gridAdd_contents_subset cfg _ s m hm).imp (ih m) List.mem_singleton.mpr)

/-- **every reachable state**: after any history of distinct objects the archive holds at most
`capacity` members, they are mutually non-dominated, and the occupancy it reports for every cell is
the number of members in that cell of its current grid -/
theorem aga_invariant (cfg : GridCfg σ β) (h : GoodCfg cfg) (xs : List σ)
    (hid : (xs.map cfg.getId).Nodup) : Inv cfg (gridRun cfg xs) := by
  induction xs using List.reverseRecOn with
  | nil => exact inv_init cfg h
  | append_singleton pre s ih =>
    rw [List.map_append, List.nodup_append] at hid
    rw [gridRun_append_singleton]
    exact inv_step cfg h _ s (ih hid.1) fun m hm =>
      hid.2.2 _ (List.mem_map_of_mem (gridRun_contents_subset cfg pre m hm)) _ (List.mem_singleton_self _)

theorem aga_capacity (cfg : GridCfg σ β) (h : GoodCfg cfg) (xs : List σ) (hid : (xs.map cfg.getId).Nodup) :
    (gridRun cfg xs).contents.length ≤ cfg.capacity := (aga_invariant cfg h xs hid).capacity

theorem aga_density_correct (cfg : GridCfg σ β) (h : GoodCfg cfg) (xs : List σ)
    (hid : (xs.map cfg.getId).Nodup) : DensityCorrect cfg (gridRun cfg xs) :=
  (aga_invariant cfg h xs hid).density

theorem aga_mutually_nondominated (cfg : GridCfg σ β) (h : GoodCfg cfg) (xs : List σ)
    (hid : (xs.map cfg.getId).Nodup) :
    ∀ a ∈ (gridRun cfg xs).contents, ∀ b ∈ (gridRun cfg xs).contents, ¬ cfg.cmp a b < 0 :=
  (aga_invariant cfg h xs hid).nondom

/-- a newcomer dominated by a member leaves the archive unchanged -/
theorem aga_dominated_newcomer_unchanged (cfg : GridCfg σ β) (h : GoodCfg cfg) (g : GridArchive σ β) (s : σ)
    (hd : ∃ m ∈ g.contents, cfg.cmp m s < 0) : gridAdd cfg g s = (g, false) := by
  rw [gridAdd_eq, if_pos ((h.cmp.any_gt_iff _ s).mpr hd)]

theorem gridEvict_contents_of_nondominated (cfg : GridCfg σ β) (h : StrictCmp cfg.cmp) (g : GridArchive σ β)
    (s : σ) (hnd : ∀ m ∈ g.contents, ¬ cfg.cmp m s < 0) :
    (gridEvict cfg g s).contents = g.contents.filter (fun m => decide (¬ cfg.cmp s m < 0)) :=
  (gridEvict_contents cfg g s).trans <| List.filter_congr fun m hm => decide_eq_decide.mpr
    ((h.zero_iff s m).trans (and_iff_left (hnd m hm)))

/-- a non-dominated newcomer that fits is added while every member it dominates leaves (and no other) -/
theorem aga_fitting_newcomer (cfg : GridCfg σ β) (h : GoodCfg cfg) (g : GridArchive σ β) (s : σ)
    (hnd : ∀ m ∈ g.contents, ¬ cfg.cmp m s < 0)
    (hfit : (g.contents.filter (fun m => decide (¬ cfg.cmp s m < 0))).length + 1 ≤ cfg.capacity) :
    (gridAdd cfg g s).2 = true ∧
    (gridAdd cfg g s).1.contents = g.contents.filter (fun m => decide (¬ cfg.cmp s m < 0)) ++ [s] := by
  rw [← gridEvict_contents_of_nondominated cfg h.cmp g s hnd] at hfit ⊢
  exact gridAdd_cases cfg g s
    (fun hany => absurd ((h.cmp.any_gt_iff _ s).mp hany) fun ⟨m, hm, hlt⟩ => hnd m hm hlt)
    (fun hemp => ⟨rfl, (congrArg (· ++ [s]) hemp).symm⟩) (fun _ => ⟨rfl, gridAppend_contents cfg _ s⟩)
    (fun hover => absurd (List.length_append ▸ hfit) hover)

/-- on overflow exactly one solution is dropped, taken from a cell of maximal occupancy -/
theorem aga_overflow_drops_one (cfg : GridCfg σ β) (h : GoodCfg cfg) (g : GridArchive σ β) (s : σ)
    (hg : Inv cfg g) (hnew : ∀ m ∈ g.contents, cfg.getId m ≠ cfg.getId s)
    (hnd : ∀ m ∈ g.contents, ¬ cfg.cmp m s < 0)
    (hover : cfg.capacity < (g.contents.filter (fun m => decide (¬ cfg.cmp s m < 0))).length + 1) :
    ∃ (g2 : GridArchive σ β) (p : σ),
      g2.contents = g.contents.filter (fun m => decide (¬ cfg.cmp s m < 0)) ++ [s] ∧
      DensityCorrect cfg g2 ∧ MembersInside cfg g2 ∧ p ∈ g2.contents ∧
      (∀ m ∈ g2.contents, occ cfg g2 m ≤ occ cfg g2 p) ∧
      (gridAdd cfg g s).1.contents = eraseId cfg.getId p g2.contents ∧
      ((gridAdd cfg g s).2 = false ↔ cfg.getId p = cfg.getId s) := by
  rw [← gridEvict_contents_of_nondominated cfg h.cmp g s hnd] at hover ⊢
  have h2 := inv_gridAppend cfg h g s hg hnew
  have hs2 := mem_gridAppend cfg (gridEvict cfg g s) s
  obtain ⟨p, hp, hmax, he, hflag⟩ := gridTrim_spec cfg _ s hs2
  -- the members have distinct ids, so "is the newcomer" can be said of ids
  have hid : p = s ↔ cfg.getId p = cfg.getId s :=
    ⟨congrArg cfg.getId, List.inj_on_of_nodup_map h2.nodup hp hs2⟩
  refine gridAdd_cases cfg g s
    (fun hany => absurd ((h.cmp.any_gt_iff _ s).mp hany) fun ⟨m, hm, hlt⟩ => hnd m hm hlt) (fun hemp => ?_)
    (fun hfit => absurd (List.length_append ▸ hover) (Nat.not_lt_of_le hfit)) fun _ => ?_
  · -- with a place for one, an archive overflows only if somebody stayed
    rw [hemp] at hover
    exact absurd h.cap (Nat.not_le_of_lt hover)
  · exact ⟨_, p, gridAppend_contents cfg _ s, h2.density, h2.inside, hp, hmax,
      he ▸ gridRemove_contents cfg _ p, hflag.trans hid⟩

/-! `paretoCompare` has the comparator laws among well-formed solutions only: `Props/C14Num.lean` runs a comparator made
total (`paretoTotal`) and comes back through `gridRun_congr_cmp`. -/

theorem gridAdd_congr (cfg : GridCfg σ β) (cmp' : σ → σ → Int) (g : GridArchive σ β) (s : σ)
    (h : ∀ m ∈ g.contents, cmp' s m = cfg.cmp s m) :
    gridAdd { cfg with cmp := cmp' } g s = gridAdd cfg g s := by
  have hany : g.contents.any (fun m => decide (cmp' s m > 0)) =
      g.contents.any (fun m => decide (cfg.cmp s m > 0)) := by
    rw [Bool.eq_iff_iff, List.any_eq_true, List.any_eq_true]
    exact exists_congr fun m => and_congr_right fun hm => by rw [h m hm]
  have hkept : g.contents.filter (fun m => decide (cmp' s m = 0)) =
      g.contents.filter (fun m => decide (cfg.cmp s m = 0)) := List.filter_congr fun m hm => by rw [h m hm]
  -- the comparator is consulted for these two only
  unfold gridAdd
  rw [hany, hkept]
  rfl

theorem gridRun_congr_cmp (cfg : GridCfg σ β) (cmp' : σ → σ → Int) (xs : List σ)
    (hcmp : ∀ x ∈ xs, ∀ y ∈ xs, cmp' x y = cfg.cmp x y) :
    gridRun { cfg with cmp := cmp' } xs = gridRun cfg xs := by
  induction xs using List.reverseRecOn with
  -- of `gridInit`: on `gridRun _ []` the kernel first compares the step functions, unfolding `gridAdd`
  | nil => exact (rfl : gridInit _ = gridInit cfg)
  | append_singleton pre s ih =>
    rw [gridRun_append_singleton, gridRun_append_singleton,
      ih fun x hx y hy => hcmp x (List.mem_append_left _ hx) y (List.mem_append_left _ hy)]
    exact congrArg Prod.fst <| gridAdd_congr cfg cmp' _ s fun m hm =>
      hcmp s (List.mem_append_right _ (List.mem_singleton_self s)) m
        (List.mem_append_left _ (gridRun_contents_subset cfg pre m hm))

/-- NSGA-II / ES / SPEA2-style survival: truncating the merged parents-plus-offspring (at least `N` of
them) to `N` yields exactly `N` -/
theorem generational_survivors_size {τ : Type} (le : τ → τ → Bool) (merged : List τ) (N : Nat)
    (h : N ≤ merged.length) : (truncateBy le merged N).length = N := by
  rw [truncate_length]; exact Nat.min_eq_left h

/-- the GA keeps `min N (offspring + 1)`: never more than `N`, and exactly `N` unless it was given
fewer offspring than parents -/
theorem ga_population_size {τ : Type} (le : τ → τ → Bool) (offspring : List τ) (fittest : τ) (N : Nat) :
    (truncateBy le (offspring ++ [fittest]) N).length ≤ N ∧
    (N ≤ offspring.length + 1 → (truncateBy le (offspring ++ [fittest]) N).length = N) := by
  rw [truncate_length, List.length_append, List.length_singleton]
  exact ⟨Nat.min_le_left _ _, Nat.min_eq_left⟩

end Platypus
