import PlatypusModel.Model.Run
import Mathlib.Logic.Function.Iterate
import Mathlib.Data.Nat.Find
/-!
# C08 — run(N) stops on budget: honest evaluation counter, overshoot under one step

For every state type, every step function that counts at least one evaluation per step (`Progress`: proved for the
generational algorithms in `Props/C08Gen.lean` and for runs with restarts in `Props/C08Restart.lean`), every budget `N`.
-/
namespace Platypus

variable {S : Type}

def Progress (step : S → S) (nfe : S → Nat) : Prop := ∀ s, nfe s + 1 ≤ nfe (step s)

section
variable (step : S → S) (nfe : S → Nat)

theorem nfe_iterate_ge (h : Progress step nfe) (s : S) (j : Nat) : nfe s + j ≤ nfe (step^[j] s) := by
  induction j with
  | zero => exact Nat.le_refl _
  | succ j ih => rw [Function.iterate_succ_apply']; exact Nat.le_trans (Nat.succ_le_succ ih) (h _)

theorem runLoop_of_ge {N start : Nat} {s : S} (h : N ≤ nfe s - start) (fuel k : Nat) :
    runLoop step nfe N start fuel s k = (s, k) := by
  cases fuel with
  | zero => rfl
  | succ fuel => exact if_pos h

theorem runLoop_of_lt {N start : Nat} {s : S} (h : nfe s - start < N) (fuel k : Nat) :
    runLoop step nfe N start (fuel + 1) s k = runLoop step nfe N start fuel (step s) (k + 1) :=
  if_neg (Nat.not_le_of_lt h)

theorem runLoop_first_reach {N start : Nat} (j : Nat) {s : S} (hbefore : ∀ i, i < j → nfe (step^[i] s) - start < N)
    (hreach : N ≤ nfe (step^[j] s) - start) (fuel k : Nat) :
    runLoop step nfe N start (fuel + j) s k = (step^[j] s, k + j) := by
  induction j generalizing s k with
  | zero => exact runLoop_of_ge step nfe hreach fuel k
  | succ j ih =>
    rw [← Nat.add_assoc, runLoop_of_lt step nfe (s := s) (hbefore 0 (Nat.succ_pos j)),
      ih (fun i hi => hbefore (i + 1) (Nat.succ_lt_succ hi)) hreach, Nat.add_right_comm]
    rfl

theorem run_eq_of_first_reach (N : Nat) (s : S) (k : Nat) (hk : k ≤ N)
    (hbefore : ∀ i, i < k → nfe (step^[i] s) - nfe s < N) (hreach : N ≤ nfe (step^[k] s) - nfe s) :
    run step nfe N s = (step^[k] s, k) := by
  have := runLoop_first_reach step nfe k hbefore hreach (N - k) 0
  rwa [Nat.sub_add_cancel hk, Nat.zero_add] at this

end

/-- **stops after the first step at which the budget is reached** (`k` is the number of steps reported); hence the
overshoot is less than the last step's evaluations -/
theorem run_stops_at_first_reach (step : S → S) (nfe : S → Nat) (h : Progress step nfe) (N : Nat) (s : S) :
    ∃ k, run step nfe N s = (step^[k] s, k) ∧ k ≤ N ∧
      (∀ i, i < k → nfe (step^[i] s) - nfe s < N) ∧ nfe (step^[k] s) - nfe s ≥ N := by
  -- after `N` steps the budget is met, so there is a first index at which it is; the run stops there
  have hN : N ≤ nfe (step^[N] s) - nfe s := Nat.le_sub_of_add_le' (nfe_iterate_ge step nfe h s N)
  have hex : ∃ k, N ≤ nfe (step^[k] s) - nfe s := ⟨N, hN⟩
  have hbefore : ∀ i, i < Nat.find hex → nfe (step^[i] s) - nfe s < N := fun i hi => Nat.lt_of_not_le (Nat.find_min hex hi)
  exact ⟨Nat.find hex, run_eq_of_first_reach step nfe N s _ (Nat.find_min' hex hN) hbefore (Nat.find_spec hex),
    Nat.find_min' hex hN, hbefore, Nat.find_spec hex⟩

/-- **termination**: the evaluations counted since the call began have reached `N` when a run returns: the loop's fuel
(`N` steps) is not what stopped it -/
theorem run_fuel_suffices (step : S → S) (nfe : S → Nat) (h : Progress step nfe) (N : Nat) (s : S) :
    nfe (run step nfe N s).1 - nfe s ≥ N := by
  obtain ⟨k, hk, _, _, hreach⟩ := run_stops_at_first_reach step nfe h N s
  rw [hk]; exact hreach

/-- a budget of 0 evaluates nothing -/
theorem run_zero_budget (step : S → S) (nfe : S → Nat) (s : S) : run step nfe 0 s = (s, 0) :=
  runLoop_of_ge step nfe (Nat.zero_le _) 0 0

/-- overshoot is less than one step: before the last step the budget was not met -/
theorem run_overshoot_lt_last_step (step : S → S) (nfe : S → Nat) (h : Progress step nfe) (N : Nat) (s : S)
    (hN : 0 < N) : ∃ k, run step nfe N s = (step^[k + 1] s, k + 1) ∧
      nfe (step^[k] s) - nfe s < N ∧ N ≤ nfe (step^[k + 1] s) - nfe s := by
  obtain ⟨k, heq, _, hbefore, hafter⟩ := run_stops_at_first_reach step nfe h N s
  cases k with
  | zero => rw [Function.iterate_zero_apply, Nat.sub_self] at hafter; exact absurd hN (Nat.not_lt_of_le hafter)
  | succ k => exact ⟨k, heq, hbefore k (Nat.lt_succ_self k), hafter⟩

/-- calling run again continues from the current state with a fresh budget, and consecutive calls
compose into one sequence of steps -/
theorem run_twice (step : S → S) (nfe : S → Nat) (h : Progress step nfe) (N₁ N₂ : Nat) (s : S) :
    ∃ k₁ k₂, run step nfe N₁ s = (step^[k₁] s, k₁) ∧
      run step nfe N₂ (step^[k₁] s) = (step^[k₂ + k₁] s, k₂) ∧
      nfe (step^[k₂ + k₁] s) - nfe (step^[k₁] s) ≥ N₂ := by
  obtain ⟨k₁, h1, _, _, _⟩ := run_stops_at_first_reach step nfe h N₁ s
  obtain ⟨k₂, h2, _, _, h2r⟩ := run_stops_at_first_reach step nfe h N₂ (step^[k₁] s)
  refine ⟨k₁, k₂, h1, ?_⟩
  rw [Function.iterate_add_apply]
  exact ⟨h2, h2r⟩

/-! ### the observed-increments form used to check traces of real runs (`runOnIncs`: a loop of its own, not proved to agree with `run`) -/

theorem runOnIncs_all (N : Nat) (incs : List Nat) (k done : Nat)
    (h : runOnIncs N incs k done = (k + incs.length, done + incs.sum, false)) :
    N ≤ done + incs.sum ∧ ∀ i, i < incs.length → done + (incs.take i).sum < N := by
  fun_induction runOnIncs N incs k done with
  | case1 incs k done hd =>
    -- stopped after `k` steps where `h` says `k + incs.length`: no increment is left
    obtain rfl := List.eq_nil_of_length_eq_zero (Nat.left_eq_add.mp (congrArg Prod.fst h))
    exact ⟨hd, nofun⟩
  | case2 k done hd => cases h   -- ran out of increments
  | case3 k done hd i rest ih =>
    -- one more step; `h` in the form of the induction hypothesis
    rw [List.length_cons, List.sum_cons, ← Nat.add_assoc k, Nat.add_right_comm k, ← Nat.add_assoc done] at h
    obtain ⟨h1, h2⟩ := ih h
    refine ⟨by rw [List.sum_cons, ← Nat.add_assoc]; exact h1, fun j hj => ?_⟩
    cases j with
    | zero => exact Nat.lt_of_not_le hd
    | succ j => rw [List.take_succ_cons, List.sum_cons, ← Nat.add_assoc]; exact h2 j (Nat.lt_of_succ_lt_succ hj)

/-- an accepted trace (the model run over the observed increments stops exactly at the observed number
of steps without running out) stops at the first step where the budget is reached -/
theorem accepted_trace_stops_at_first_reach (N : Nat) (incs : List Nat)
    (hacc : runOnIncs N incs 0 0 = (incs.length, incs.sum, false)) :
    N ≤ incs.sum ∧ ∀ i, i < incs.length → (incs.take i).sum < N := by
  simpa only [Nat.zero_add] using runOnIncs_all N incs 0 0 (by simpa only [Nat.zero_add] using hacc)

/-- the counter is never smaller than the number of calls actually made, batch by batch -/
theorem evalAll_calls_le (batch : List Bool) : (evalAll batch).1 ≤ (evalAll batch).2 :=
  List.length_filter_le _ _

/-- an already evaluated solution is not evaluated again: calls = number of unevaluated members -/
theorem evalAll_calls_eq (batch : List Bool) : (evalAll batch).1 = batch.count false := by
  simp [evalAll, List.count_eq_countP, List.countP_eq_length_filter]

/-! non-vacuity: step size 4, budget 9 → 3 steps, 12 evaluations, overshoot 3 < 4 -/
example : run (fun n : Nat => n + 4) id 9 100 = (112, 3) := by decide
example : runOnIncs 9 [4, 4, 4] 0 0 = (3, 12, false) ∧ runOnIncs 9 [4, 4, 4, 4] 0 0 = (3, 12, false) ∧
    runOnIncs 9 [4, 4] 0 0 = (2, 8, true) := by decide

end Platypus
