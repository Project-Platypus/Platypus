import PlatypusModel.Props.C18
import Mathlib.Analysis.SpecialFunctions.Trigonometric.Basic
import Mathlib.Analysis.SpecialFunctions.Pow.Real
/-
Non-vacuity of `C18.TrigOK`: the real functions satisfy it.  `UFOk`, the sign premises of `concave_front` and the
hypotheses on `hyp` / `exp` in C18Rot are not instantiated.
-/
namespace Platypus.C18

noncomputable def realTrig : Trig ℝ :=
  { cos := Real.cos, sin := Real.sin, sqrt := Real.sqrt, exp := Real.exp, pow := Real.rpow, pi := Real.pi,
    ofNat := fun n => (n : ℝ) }

theorem realTrig_ok : TrigOK realTrig :=
  { pythag := fun x => by
      show Real.cos x * Real.cos x + Real.sin x * Real.sin x = 1
      rw [← sq, ← sq]
      exact Real.cos_sq_add_sin_sq x
    cos_zero := Real.cos_zero
    ofNat_eq := fun _ => rfl
    pow_nonneg := fun _ y hx => Real.rpow_nonneg hx y }

/-- DTLZ2 over ℝ, any number of objectives and variables: never below the unit sphere -/
theorem dtlz2_front_real (M : Nat) (hM : 1 ≤ M) (x : List ℝ) (hx : M - 1 ≤ x.length) :
    1 ≤ sumSq (dtlz2 realTrig M x) :=
  dtlz2_front realTrig realTrig_ok M hM x hx

end Platypus.C18
