import PlatypusModel.Props.C05
/-!
C05 for `epsCompareP`: `EpsilonDominance.compare` asking `ParetoDominance` first inside one box (`epsCompare` is the
comparator without that test).  Over an ordered field with exact floor the two agree on well-formed solutions
(`epsCompareP_eq`).  Over any linearly ordered scalar type, with any `fl` and `sq`, `epsCompareP` never contradicts
Pareto dominance if the box index is monotone (`MonoIdx`; no type is shown here to meet it); on IEEE doubles
`epsCompare` breaks this clause when two corner distances round to the same value.
-/
namespace Platypus

section anyArith
variable {α : Type} [LT α] [DecidableLT α] [BEq α] [Neg α] [OfNat α 0] [Sub α] [Mul α] [Div α] [Add α]

theorem epsCompareP_eq_of_respects (fl sq : α → α) (c : Bool) (dirs : List Bool) (eps : List α) (a b : Sol α)
    (hr : (paretoCompare c dirs a b = -1 → epsCompare fl sq c dirs eps a b = -1) ∧
      (paretoCompare c dirs a b = 1 → epsCompare fl sq c dirs eps a b = 1)) :
    epsCompareP fl sq c dirs eps a b = epsCompare fl sq c dirs eps a b := by
  revert hr
  unfold epsCompareP epsCompare
  cases cvBlock c a.cv b.cv with
  | some r => exact fun _ => rfl
  | none =>
    cases boxScan fl dirs eps a.objs b.objs false false with
    | same =>
      intro hr
      dsimp only at hr ⊢
      by_cases h1 : paretoCompare c dirs a b = -1
      · rw [hr.1 h1, h1]; rfl
      · by_cases h2 : paretoCompare c dirs a b = 1
        · rw [hr.2 h2, h2]; rfl
        · rw [if_neg (by simpa using h1), if_neg (by simpa using h2)]
    | _ => exact fun _ => rfl
end anyArith

section exact
variable {α : Type} [Field α] [LinearOrder α] [IsStrictOrderedRing α] [FloorRing α]

/-- in exact arithmetic the two comparators agree on well-formed solutions -/
theorem epsCompareP_eq (c : Bool) (dirs : List Bool) (eps : List α) (a b : Sol α)
    (ha : WFe dirs eps a) (hb : WFe dirs eps b) :
    epsCompareP flE sqE c dirs eps a b = epsCompare flE sqE c dirs eps a b :=
  epsCompareP_eq_of_respects _ _ _ _ _ _ _ (eps_respects_pareto c dirs eps a b ha hb)

/-- hence `epsCompareP`, too, never contradicts Pareto dominance in exact arithmetic -/
theorem epsP_respects_pareto (c : Bool) (dirs : List Bool) (eps : List α) (a b : Sol α)
    (ha : WFe dirs eps a) (hb : WFe dirs eps b) :
    (paretoCompare c dirs a b = -1 → epsCompareP flE sqE c dirs eps a b = -1) ∧
    (paretoCompare c dirs a b = 1 → epsCompareP flE sqE c dirs eps a b = 1) := by
  rw [epsCompareP_eq c dirs eps a b ha hb]
  exact eps_respects_pareto c dirs eps a b ha hb
end exact

section anyScalar
variable {α : Type} [LinearOrder α] [Neg α] [OfNat α 0] [Sub α] [Mul α] [Div α] [Add α]

/-- the box index `floor(o / ε)` of a direction-adjusted value is monotone in `o`.  For IEEE doubles and positive
ε this is assumed, not proved (correctly rounded division and `floor` are both monotone: trusted base, DESIGN.md §4
item 4). -/
def MonoIdx (fl : α → α) (eps : List α) : Prop :=
  ∀ e ∈ eps, ∀ x y : α, x ≤ y → ¬ (boxIdx fl e y < boxIdx fl e x)

section
omit [OfNat α 0] [Sub α] [Mul α] [Add α]

omit [Neg α] in
theorem MonoIdx.epsNext {fl : α → α} {es : List α} (hm : MonoIdx fl es) : MonoIdx fl (epsNext es) :=
  forall_mem_epsNext hm

/-- no worse in every objective ⇒ the flag loop never raises the second flag -/
theorem boxScan_of_allLe (fl : α → α) (ds : List Bool) (es xs ys : List α) (d1 d2 : Bool)
    (hd : d2 = false) (hm : MonoIdx fl es) (h : AllLe ds xs ys) :
    boxScan fl ds es xs ys d1 d2 = .first ∨ boxScan fl ds es xs ys d1 d2 = .same := by
  fun_induction boxScan fl ds es xs ys d1 d2
  -- first index smaller: stop (second flag up) or go on
  case case1 => cases hd
  case case2 ih => exact ih hd hm.epsNext h.2
  -- second index smaller: excluded by monotonicity
  case case3 hgt | case4 hgt _ _ => exact absurd hgt (hm _ List.mem_cons_self _ _ h.1)
  -- equal indices
  case case5 ih => exact ih hd hm.epsNext h.2
  -- a list is exhausted
  case case6 => exact Or.inr rfl
  case case7 => exact Or.inl rfl
  case case8 hflag hd1 _ => exact absurd (by rw [hd, Bool.eq_false_iff.mpr hd1]; rfl) hflag

/-- mirrored: the first flag is never raised -/
theorem boxScan_of_allGe (fl : α → α) (ds : List Bool) (es xs ys : List α) (d1 d2 : Bool)
    (hd : d1 = false) (hm : MonoIdx fl es) (h : AllLe ds ys xs) :
    boxScan fl ds es xs ys d1 d2 = .second ∨ boxScan fl ds es xs ys d1 d2 = .same := by
  fun_induction boxScan fl ds es xs ys d1 d2
  -- first index smaller: excluded by monotonicity
  case case1 hlt | case2 hlt _ _ => exact absurd hlt (hm _ List.mem_cons_self _ _ h.1)
  -- second index smaller: stop (first flag up) or go on
  case case3 => cases hd
  case case4 ih => exact ih hd hm.epsNext h.2
  -- equal indices
  case case5 ih => exact ih hd hm.epsNext h.2
  -- a list is exhausted
  case case6 => exact Or.inr rfl
  case case7 => cases hd
  case case8 => exact Or.inl rfl
end

/-- `epsCompareP` never contradicts Pareto dominance, for any `fl`, `sq` on a linearly ordered type with `MonoIdx` -/
theorem epsCompareP_respects_pareto_any (fl sq : α → α) (c : Bool) (dirs : List Bool) (eps : List α) (a b : Sol α)
    (hm : MonoIdx fl eps) :
    (paretoCompare c dirs a b = -1 → epsCompareP fl sq c dirs eps a b = -1) ∧
    (paretoCompare c dirs a b = 1 → epsCompareP fl sq c dirs eps a b = 1) := by
  unfold epsCompareP paretoCompare
  cases cvBlock c a.cv b.cv with
  | some r => exact ⟨id, id⟩
  | none =>
    -- the Pareto winner is no worse everywhere: either its box wins, or it is one box and the Pareto test decides
    refine ⟨fun h => ?_, fun h => ?_⟩
    · rcases boxScan_of_allLe fl dirs eps a.objs b.objs false false rfl hm
        ((scan_neg_one_iff ..).mp h).2.1 with hb | hb
      · rw [hb]
      · simp only [hb, h]
        rfl
    · rcases boxScan_of_allGe fl dirs eps a.objs b.objs false false rfl hm
        ((scan_one_iff ..).mp h).2.1 with hb | hb
      · rw [hb]
      · simp only [hb, h]
        rfl
end anyScalar

end Platypus
