import PlatypusModel.Props.C02
import PlatypusModel.Props.C03
import PlatypusModel.Props.C05Fix
import Mathlib.Data.Rat.Floor
import Mathlib.Algebra.Order.Ring.Rat
/-!
# Wire — the theorems at the driver's two exact scalar types, the model's own instances written out

The theorems of C02 / C03 are stated for an arbitrary `[LinearOrder α] [Neg α] [Zero α]`, those of C05 for an arbitrary
ordered field with a floor, with `flE`/`sqE` as floor and square.  The compiled driver (`Driver/Ops.lean`, which imports the
model files and core Lean only) runs the *model* functions at `Platypus.ERat` with the model's own `LT`, `DecidableLT`,
`Neg`, `0` and the `BEq` of the derived `DecidableEq` (`paretoCompare`, `archiveOf`, non-dominated sort), and at `Rat` with
the core instances and `flQ x = (x.floor : Int)`, `sqQ x = x * x` (`epsCompareP`, `sameBox`).

This file does not import the driver.  The `wire_E*` / `wire_Q*` abbreviations are the model's functions applied to those
instances, written out by hand, with `flQ` and `sqQ` copied as lambdas; that `Driver/Ops.lean` elaborates to these terms is
read off the two files, not checked.  Checked here, by `rfl`: the `LinearOrder ERat` and `Zero ERat` defined below, and
Mathlib's `Field ℚ` / `LinearOrder ℚ`, carry those very instances, so the abbreviations are the functions the theorems speak
of.  The C02 / C03 / C05 theorems are then restated about the abbreviations and the copied lambdas, so that nothing depends
on which instance elaboration happens to pick.
-/
namespace Platypus

theorem wire_blt_irrefl (a : ERat) : ERat.blt a a = false := by
  cases a <;> simp [ERat.blt]

theorem wire_blt_trans (a b c : ERat) :
    ERat.blt b a = false → ERat.blt c b = false → ERat.blt c a = false := by
  cases a <;> cases b <;> cases c <;> simp [ERat.blt]
  -- all arguments finite
  exact fun h1 h2 => le_trans h1 h2

theorem wire_blt_antisymm (a b : ERat) :
    ERat.blt b a = false → ERat.blt a b = false → a = b := by
  cases a <;> cases b <;> simp [ERat.blt]
  exact fun h1 h2 => le_antisymm h1 h2

theorem wire_blt_total (a b : ERat) : ERat.blt b a = false ∨ ERat.blt a b = false := by
  cases a <;> cases b <;> simp [ERat.blt]
  exact le_total _ _

theorem wire_blt_lt_iff (a b : ERat) :
    ERat.blt a b = true ↔ ERat.blt b a = false ∧ ¬ ERat.blt a b = false := by
  cases a <;> cases b <;> simp [ERat.blt]
  exact fun h => le_of_lt h

/-- `a < b` is the model's `blt a b = true`, `a ≤ b` is `blt b a = false`; the decision procedures for `<` and `=` are the model's -/
instance instLinearOrderERat : LinearOrder ERat where
  le a b := ERat.blt b a = false
  lt a b := ERat.blt a b = true
  le_refl := wire_blt_irrefl
  le_trans := wire_blt_trans
  lt_iff_le_not_ge := wire_blt_lt_iff
  le_antisymm := wire_blt_antisymm
  le_total := wire_blt_total
  toDecidableLE := fun a b => inferInstanceAs (Decidable (ERat.blt b a = false))
  toDecidableEq := instDecidableEqERat
  toDecidableLT := ERat.instDecidableLT

instance instZeroERat : Zero ERat := ⟨.fin 0⟩

/-! #### the instances the theorems use are definitionally the model's -/

-- `<`, directly and along the path `LinearOrder → PartialOrder → Preorder → LT` by which the statements of C02 reach it
example : (instLinearOrderERat.toLT : LT ERat) = ERat.instLT := rfl
example : (@Preorder.toLT ERat (@PartialOrder.toPreorder ERat instLinearOrderERat.toPartialOrder)) = ERat.instLT := rfl
example : (instLinearOrderERat.toDecidableLT : DecidableLT ERat) = ERat.instDecidableLT := rfl
-- `DecidableEq`, hence the `BEq` behind `==` and `!=` in `cvBlock`
example : (instLinearOrderERat.toDecidableEq : DecidableEq ERat) = instDecidableEqERat := rfl
example : (@instBEqOfDecidableEq ERat instLinearOrderERat.toDecidableEq) =
    @instBEqOfDecidableEq ERat instDecidableEqERat := rfl
example : (@Zero.toOfNat0 ERat instZeroERat : OfNat ERat 0) = ERat.instOfNatOfNatNat := rfl
-- what instance resolution finds in this file, with the two new instances and Mathlib's in scope
example : (inferInstance : LT ERat) = ERat.instLT := rfl
example : (inferInstance : DecidableLT ERat) = ERat.instDecidableLT := rfl
example : (inferInstance : BEq ERat) = @instBEqOfDecidableEq ERat instDecidableEqERat := rfl
example : (inferInstance : Neg ERat) = ERat.instNeg := rfl
example : (inferInstance : OfNat ERat 0) = ERat.instOfNatOfNatNat := rfl

abbrev wire_EparetoCompare : Bool → List Bool → Sol ERat → Sol ERat → Int :=
  @paretoCompare ERat ERat.instLT ERat.instDecidableLT (@instBEqOfDecidableEq ERat instDecidableEqERat)
    ERat.instNeg ERat.instOfNatOfNatNat

abbrev wire_Escan : List Bool → List ERat → List ERat → Bool → Bool → Int :=
  @scan ERat ERat.instLT ERat.instDecidableLT ERat.instNeg

abbrev wire_EcvBlock : Bool → ERat → ERat → Option Int :=
  @cvBlock ERat ERat.instLT ERat.instDecidableLT (@instBEqOfDecidableEq ERat instDecidableEqERat)
    ERat.instOfNatOfNatNat

/-- the theorems' `paretoCompare (α := ERat)` (instances derived from `LinearOrder`/`Zero`, as in the statement
of `pareto_neg_one_iff`) is `wire_EparetoCompare` -/
theorem wire_paretoCompare_eq :
    wire_EparetoCompare =
      @paretoCompare ERat
        (@Preorder.toLT ERat (@PartialOrder.toPreorder ERat instLinearOrderERat.toPartialOrder))
        instLinearOrderERat.toDecidableLT
        (@instBEqOfDecidableEq ERat instLinearOrderERat.toDecidableEq)
        ERat.instNeg
        (@Zero.toOfNat0 ERat instZeroERat) := rfl

theorem wire_scan_eq :
    wire_Escan =
      @scan ERat
        (@Preorder.toLT ERat (@PartialOrder.toPreorder ERat instLinearOrderERat.toPartialOrder))
        instLinearOrderERat.toDecidableLT ERat.instNeg := rfl

theorem wire_cvBlock_eq :
    wire_EcvBlock =
      @cvBlock ERat
        (@Preorder.toLT ERat (@PartialOrder.toPreorder ERat instLinearOrderERat.toPartialOrder))
        instLinearOrderERat.toDecidableLT
        (@instBEqOfDecidableEq ERat instLinearOrderERat.toDecidableEq)
        (@Zero.toOfNat0 ERat instZeroERat) := rfl

/-- … and it is what plain elaboration produces in this file -/
theorem wire_paretoCompare_eq_elab :
    wire_EparetoCompare = fun c dirs (a b : Sol ERat) => paretoCompare c dirs a b := rfl

theorem wire_archiveOf_eq (c : Bool) (dirs : List Bool) :
    archiveOf (wire_EparetoCompare c dirs) = archiveOf (paretoCompare (α := ERat) c dirs) := rfl

theorem wire_neg_ninf : -ERat.ninf = ERat.pinf := rfl
theorem wire_neg_pinf : -ERat.pinf = ERat.ninf := rfl
theorem wire_neg_fin (q : Rat) : -ERat.fin q = ERat.fin (-q) := rfl

/-- `Better`'s strict comparison at `ERat` is the model's `<` -/
theorem wire_lt_iff (x y : ERat) : x < y ↔ ERat.blt x y = true := Iff.rfl

/-- `AllLe`'s weak comparison at `ERat` is "not the model's `>`" -/
theorem wire_le_iff (x y : ERat) : x ≤ y ↔ ¬ y < x := not_lt.symm

/-- `ERat` negation reverses the order (the hypothesis of `adj_max_lt_iff`) -/
theorem wire_neg_lt_neg_iff (x y : ERat) : -x < -y ↔ y < x := by
  cases x <;> cases y <;>
    simp [wire_lt_iff, wire_neg_ninf, wire_neg_pinf, wire_neg_fin, ERat.blt]

theorem wire_pareto_neg_one_iff (c : Bool) (dirs : List Bool) (a b : Sol ERat)
    (ha : WF dirs a) (hb : WF dirs b) :
    wire_EparetoCompare c dirs a b = -1 ↔ Better c dirs a b :=
  pareto_neg_one_iff c dirs a b ha hb

theorem wire_pareto_one_iff (c : Bool) (dirs : List Bool) (a b : Sol ERat)
    (ha : WF dirs a) (hb : WF dirs b) :
    wire_EparetoCompare c dirs a b = 1 ↔ Better c dirs b a :=
  pareto_one_iff c dirs a b ha hb

theorem wire_pareto_zero_iff (c : Bool) (dirs : List Bool) (a b : Sol ERat)
    (ha : WF dirs a) (hb : WF dirs b) :
    wire_EparetoCompare c dirs a b = 0 ↔ (¬ Better c dirs a b ∧ ¬ Better c dirs b a) :=
  pareto_zero_iff c dirs a b ha hb

theorem wire_pareto_range (c : Bool) (dirs : List Bool) (a b : Sol ERat) :
    wire_EparetoCompare c dirs a b = -1 ∨ wire_EparetoCompare c dirs a b = 0 ∨
      wire_EparetoCompare c dirs a b = 1 :=
  pareto_range c dirs a b

theorem wire_pareto_antisymm (c : Bool) (dirs : List Bool) (a b : Sol ERat)
    (ha : WF dirs a) (hb : WF dirs b) :
    wire_EparetoCompare c dirs b a = - wire_EparetoCompare c dirs a b :=
  pareto_antisymm c dirs a b ha hb

theorem wire_pareto_trans (c : Bool) (dirs : List Bool) (a b d : Sol ERat)
    (ha : WF dirs a) (hb : WF dirs b) (hd : WF dirs d)
    (h1 : wire_EparetoCompare c dirs a b = -1) (h2 : wire_EparetoCompare c dirs b d = -1) :
    wire_EparetoCompare c dirs a d = -1 :=
  pareto_trans c dirs a b d ha hb hd h1 h2

theorem wire_archive_eq_filter (c : Bool) (dirs : List Bool) (xs : List (Sol ERat))
    (hwf : ∀ x ∈ xs, WF dirs x) :
    archiveOf (wire_EparetoCompare c dirs) xs =
      xs.filter (fun x => xs.all (fun y => decide (¬ wire_EparetoCompare c dirs y x < 0))) :=
  pareto_archive_eq_filter c dirs xs hwf

theorem wire_WF_iff (dirs : List Bool) (a : Sol ERat) :
    WF dirs a ↔ a.objs.length = dirs.length ∧ ERat.blt a.cv (ERat.fin 0) = false := Iff.rfl

/-- non-vacuity: an infinite objective, mixed directions, a constrained pair -/
example :
    WF [false, true] (⟨0, [.fin 1, .pinf], .fin 0⟩ : Sol ERat) ∧
    WF [false, true] (⟨1, [.fin 1, .fin 3], .fin 0⟩ : Sol ERat) ∧
    wire_EparetoCompare true [false, true] ⟨0, [.fin 1, .pinf], .fin 0⟩ ⟨1, [.fin 1, .fin 3], .fin 0⟩ = -1 ∧
    wire_EparetoCompare true [false, true] ⟨0, [.ninf, .pinf], .fin 2⟩ ⟨1, [.fin 1, .fin 3], .fin 1⟩ = 1 := by
  exact ⟨⟨rfl, by decide⟩, ⟨rfl, by decide⟩, by decide, by decide⟩

/-! the core instances (the ones in scope in `Driver/Ops.lean`) are definitionally those carried by `Field ℚ` / `LinearOrder ℚ` -/
example : (Rat.instLT : LT Rat) =
    @Preorder.toLT Rat (@PartialOrder.toPreorder Rat Rat.linearOrder.toPartialOrder) := rfl
example : (Rat.instDecidableLt : DecidableLT Rat) = Rat.linearOrder.toDecidableLT := rfl
example : (@instBEqOfDecidableEq Rat instDecidableEqRat) =
    @instBEqOfDecidableEq Rat Rat.linearOrder.toDecidableEq := rfl
example : (Rat.instNeg : Neg Rat) = (inferInstance : Field Rat).toNeg := rfl
example : (@Rat.instOfNat 0 : OfNat Rat 0) = @Zero.toOfNat0 Rat (inferInstance : Field Rat).toZero := rfl
example : (Rat.instSub : Sub Rat) = (inferInstance : Field Rat).toSub := rfl
example : (Rat.instMul : Mul Rat) = (inferInstance : Field Rat).toMul := rfl
example : (Rat.instDiv : Div Rat) = (inferInstance : Field Rat).toDiv := rfl
example : (Rat.instAdd : Add Rat) = (inferInstance : Field Rat).toAdd := rfl

/-- the body of `flQ` (`Driver/Ops.lean`), copied, is the exact floor `flE` -/
theorem wire_flQ_eq : (fun x : Rat => ((x.floor : Int) : Rat)) = flE := rfl

/-- the body of `sqQ`, copied, is `sqE` -/
theorem wire_sqQ_eq : (fun x : Rat => x * x) = sqE := rfl

/-- `epsCompareP` at `Rat` on the core instances, with the bodies of `flQ`, `sqQ` -/
abbrev wire_QepsCompareP : Bool → List Bool → List Rat → Sol Rat → Sol Rat → Int :=
  @epsCompareP Rat Rat.instLT Rat.instDecidableLt (@instBEqOfDecidableEq Rat instDecidableEqRat) Rat.instNeg
    (@Rat.instOfNat 0) Rat.instSub Rat.instMul Rat.instDiv Rat.instAdd
    (fun x => @Int.cast Rat Rat.instIntCast (Rat.floor x)) (fun x => @HMul.hMul Rat Rat Rat (@instHMul Rat Rat.instMul) x x)

abbrev wire_QsameBox : Bool → List Bool → List Rat → Sol Rat → Sol Rat → Bool :=
  @sameBox Rat Rat.instLT Rat.instDecidableLt (@instBEqOfDecidableEq Rat instDecidableEqRat) Rat.instNeg
    (@Rat.instOfNat 0) Rat.instDiv
    (fun x => @Int.cast Rat Rat.instIntCast (Rat.floor x))

abbrev wire_QparetoCompare : Bool → List Bool → Sol Rat → Sol Rat → Int :=
  @paretoCompare Rat Rat.instLT Rat.instDecidableLt (@instBEqOfDecidableEq Rat instDecidableEqRat) Rat.instNeg
    (@Rat.instOfNat 0)

theorem wire_epsCompareP_fn_eq : wire_QepsCompareP = epsCompareP (α := Rat) flE sqE := rfl

theorem wire_epsCompareP_fn_eq' :
    wire_QepsCompareP = epsCompareP (fun x : Rat => ((x.floor : Int) : Rat)) (fun x => x * x) := rfl

theorem wire_sameBox_fn_eq : wire_QsameBox = sameBox (α := Rat) flE := rfl

theorem wire_paretoCompare_rat_eq : wire_QparetoCompare = paretoCompare (α := Rat) := rfl

/-- the repaired ε-comparator, with the bodies of `flQ` and `sqQ` as floor and square, never contradicts Pareto dominance -/
theorem wire_eps_respects_pareto (c : Bool) (dirs : List Bool) (eps : List Rat) (a b : Sol Rat)
    (ha : WFe dirs eps a) (hb : WFe dirs eps b) :
    (paretoCompare c dirs a b = -1 →
      epsCompareP (fun x : Rat => ((x.floor : Int) : Rat)) (fun x => x * x) c dirs eps a b = -1) ∧
    (paretoCompare c dirs a b = 1 →
      epsCompareP (fun x : Rat => ((x.floor : Int) : Rat)) (fun x => x * x) c dirs eps a b = 1) :=
  epsP_respects_pareto c dirs eps a b ha hb

/-- the same, every instance spelled out -/
theorem wire_eps_respects_pareto' (c : Bool) (dirs : List Bool) (eps : List Rat) (a b : Sol Rat)
    (ha : WFe dirs eps a) (hb : WFe dirs eps b) :
    (wire_QparetoCompare c dirs a b = -1 → wire_QepsCompareP c dirs eps a b = -1) ∧
    (wire_QparetoCompare c dirs a b = 1 → wire_QepsCompareP c dirs eps a b = 1) :=
  epsP_respects_pareto c dirs eps a b ha hb

/-- with that floor and square the repaired comparator `epsCompareP` equals the original `epsCompare` -/
theorem wire_epsCompareP_eq (c : Bool) (dirs : List Bool) (eps : List Rat) (a b : Sol Rat)
    (ha : WFe dirs eps a) (hb : WFe dirs eps b) :
    epsCompareP (fun x : Rat => ((x.floor : Int) : Rat)) (fun x => x * x) c dirs eps a b =
      epsCompare (fun x : Rat => ((x.floor : Int) : Rat)) (fun x => x * x) c dirs eps a b :=
  epsCompareP_eq c dirs eps a b ha hb

end Platypus
