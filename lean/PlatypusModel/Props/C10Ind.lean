import PlatypusModel.Props.C10
import PlatypusModel.Lemmas.Indicators
-- the statements are made over the one `variable` line below, whether or not a proof uses all of its classes
set_option linter.unusedSectionVars false
/-!
# C10 for the indicators

Replacing maximised objectives by their minimised negations (any subset `S`, in the reference set and the evaluated set
alike) leaves hypervolume and the additive ε-indicator (both: repaired code), GD, IGD and spacing unchanged.  Exact
arithmetic, as in C16.

The flip turns the bounds `(mn, mx)` into `(flipLo, flipHi)` and, where the range is not degenerate, a normalised value
`n` into `1 - n`, which hypervolume undoes by its inversion step.  The other indicators are computed from pairwise
quantities (Euclidean distance, directed ε difference, Manhattan distance) that do not see the flip, degenerate range or not.
-/
namespace Platypus

variable {α : Type} [Field α] [LinearOrder α] [IsStrictOrderedRing α]

-- `flipObjs S` is a `zipWith`: a shorter `S` would cut the vector, hence `S.length = nobjs` (or `= dirs.length`) throughout
def flipISol (S : List Bool) (s : ISol α) : ISol α := { s with objs := flipObjs S s.objs }

theorem c10i_isFeasible_flip (S : List Bool) (s : ISol α) : isFeasible (flipISol S s) = isFeasible s := rfl

theorem filter_flip (S : List Bool) (sols : List (ISol α)) :
    (sols.map (flipISol S)).filter isFeasible = (sols.filter isFeasible).map (flipISol S) := by
  rw [List.filter_map]
  exact congrArg _ (List.filter_congr fun s _ => c10i_isFeasible_flip S s)

/-- the bounds of the flipped problem -/
def flipLo (S : List Bool) (mn mx : List α) : List α :=
  List.zipWith (fun (f : Bool) (p : α × α) => if f then -p.2 else p.1) S (mn.zip mx)
def flipHi (S : List Bool) (mn mx : List α) : List α :=
  List.zipWith (fun (f : Bool) (p : α × α) => if f then -p.1 else p.2) S (mn.zip mx)

def flipN (S : List Bool) (n : List α) : List α := List.zipWith (fun (f : Bool) n => if f then 1 - n else n) S n

theorem normObjs_flipN (S : List Bool) (mn mx : List α) (k : Nat) (hS : S.length = k) (hmn : mn.length = k) (hmx : mx.length = k)
    (hr : ∀ p ∈ mn.zip mx, p.1 ≠ p.2) (objs : List α) :
    normObjs (flipLo S mn mx) (flipHi S mn mx) (flipObjs S objs) = flipN S (normObjs mn mx objs) := by
  obtain ⟨s, rfl⟩ := exists_tab hS
  obtain ⟨lo, rfl⟩ := exists_tab hmn
  obtain ⟨hi, rfl⟩ := exists_tab hmx
  obtain ⟨m, x, rfl⟩ := exists_tab' objs
  rw [zip_tab, Nat.min_self, forall_mem_tab] at hr
  simp only [normObjs, flipLo, flipHi, flipObjs, flipN, zip_tab, zipWith_tab, Nat.min_self, Nat.min_self_assoc]
  refine tab_congr fun i hi => ?_
  cases s i
  · rfl
  · exact (norm_flip _ _ _).trans (congrArg (· - _) (div_self (sub_ne_zero.mpr (hr i (lt_min_iff.mp hi).1).symm)))

/-- a flipped objective's normalised value is `1 - n`, the others are unchanged (the right-hand side is `flipN S _`) -/
theorem normObjs_flip (S : List Bool) (mn mx objs : List α)
    (hS : S.length = objs.length) (hmn : mn.length = objs.length) (hmx : mx.length = objs.length)
    (hr : ∀ p ∈ mn.zip mx, p.1 ≠ p.2) :
    normObjs (flipLo S mn mx) (flipHi S mn mx) (flipObjs S objs) =
      List.zipWith (fun (f : Bool) n => if f then 1 - n else n) S (normObjs mn mx objs) :=
  normObjs_flipN S mn mx _ hS hmn hmx hr objs

theorem checkRanges_flip (eps : α) (S : List Bool) (mn mx : List α) (k : Nat)
    (hS : S.length = k) (hmn : mn.length = k) (hmx : mx.length = k) :
    checkRanges eps (flipLo S mn mx) (flipHi S mn mx) = checkRanges eps mn mx := by
  obtain ⟨s, rfl⟩ := exists_tab hS
  obtain ⟨lo, rfl⟩ := exists_tab hmn
  obtain ⟨hi, rfl⟩ := exists_tab hmx
  simp only [checkRanges, flipLo, flipHi, zip_tab, zipWith_tab, Nat.min_self]
  refine congrArg (fun b : Bool => if b then _ else _) (any_tab_congr fun i _ => ?_)
  cases s i
  · rfl
  · simp only [if_true, neg_sub_neg]

theorem column_flip {k i : Nat} (hi : i < k) (s : Nat → Bool) (sols : List (ISol α)) (hs : ∀ t ∈ sols, t.objs.length = k) :
    column (sols.map (flipISol (tab k s))) i = (column sols i).map fun x => if s i then -x else x := by
  unfold column
  rw [filter_flip, List.map_map, List.map_map]
  refine List.map_congr_left fun t ht => ?_
  obtain ⟨x, hx⟩ := exists_tab (hs t (List.mem_of_mem_filter ht))
  simp only [Function.comp, flipISol, hx, flipObjs, zipWith_tab, Nat.min_self, getD_tab hi]

theorem boundsOf_flip_eq (S : List Bool) (nobjs : Nat) (sols : List (ISol α))
    (hS : S.length = nobjs) (hsols : ∀ s ∈ sols, s.objs.length = nobjs) :
    boundsOf nobjs (sols.map (flipISol S)) = (boundsOf nobjs sols).map fun b => (flipLo S b.1 b.2, flipHi S b.1 b.2) := by
  obtain ⟨s, rfl⟩ := exists_tab hS
  rw [boundsOf_eq, boundsOf_eq, filter_flip]
  simp only [List.map_eq_nil_iff]
  split
  · rfl
  · rename_i hne
    simp only [Except.map, flipLo, flipHi, zip_tab, zipWith_tab, Nat.min_self]
    refine congrArg Except.ok (Prod.ext (tab_congr fun i hi => ?_) (tab_congr fun i hi => ?_))
    · rw [column_flip hi s sols hsols]
      cases s i
      · exact congrArg (pyMinList 0) (List.map_id' _)
      · exact pyMinList_map_antitone (fun _ _ => neg_le_neg) 0 0 (column_ne_nil hne i)
    · rw [column_flip hi s sols hsols]
      cases s i
      · exact congrArg (pyMaxList 0) (List.map_id' _)
      · exact pyMaxList_map_antitone (fun _ _ => neg_le_neg) 0 0 (column_ne_nil hne i)

/-- the bounds of the flipped set are the flipped bounds: `min (-x) = - max x` -/
theorem boundsOf_flip (S : List Bool) (nobjs : Nat) (sols : List (ISol α)) (mn mx : List α)
    (hS : S.length = nobjs) (hsols : ∀ s ∈ sols, s.objs.length = nobjs)
    (h : boundsOf nobjs sols = .ok (mn, mx)) :
    boundsOf nobjs (sols.map (flipISol S)) = .ok (flipLo S mn mx, flipHi S mn mx) := by
  rw [boundsOf_flip_eq S nobjs sols hS hsols, h]; rfl

theorem hvKeep_flip (S dirs : List Bool) (k : Nat) (hS : S.length = k) (hd : dirs.length = k) (n : List α) :
    hvKeep true (flipDirs S dirs) (flipN S n) = hvKeep true dirs n := by
  obtain ⟨s, rfl⟩ := exists_tab hS
  obtain ⟨d, rfl⟩ := exists_tab hd
  obtain ⟨m, x, rfl⟩ := exists_tab' n
  simp only [hvKeep, flipDirs, flipN, zip_tab, zipWith_tab, Nat.min_self, Nat.min_self_assoc]
  refine all_tab_congr fun i _ => ?_
  cases d i <;> cases s i
  · rfl                                             -- minimised, not flipped
  · exact decide_eq_decide.mpr sub_nonneg            -- minimised, flipped: `0 ≤ 1 - n ↔ n ≤ 1`
  · rfl                                             -- maximised, not flipped
  · exact decide_eq_decide.mpr (sub_le_self_iff 1)   -- maximised, flipped: `1 - n ≤ 1 ↔ 0 ≤ n`

theorem hvInvert_flip (S dirs : List Bool) (k : Nat) (hS : S.length = k) (hd : dirs.length = k) (n : List α) :
    hvInvert true (flipDirs S dirs) (flipN S n) = hvInvert true dirs n := by
  obtain ⟨s, rfl⟩ := exists_tab hS
  obtain ⟨d, rfl⟩ := exists_tab hd
  obtain ⟨m, x, rfl⟩ := exists_tab' n
  simp only [hvInvert, flipDirs, flipN, zipWith_tab, Nat.min_self, Nat.min_self_assoc, clip_eq]
  refine tab_congr fun i _ => ?_
  cases d i <;> cases s i
  · rfl                      -- minimised, not flipped
  · exact clip_one_sub _     -- minimised, flipped: now maximised, so inverted
  · rfl                      -- maximised, not flipped
  · exact (congrArg (1 - ·) (clip_one_sub _)).trans (sub_sub_cancel _ _)   -- maximised, flipped: `1 - (1 - clip n) = clip n`

set_option linter.unusedVariables false in -- the members of `set` may have any length
/-- hypervolume is unchanged by flipping any subset of objectives (repaired code) -/
theorem hypervolume_flip_invariant (eps : α) (S dirs : List Bool) (mn mx : List α) (set : List (ISol α))
    (hS : S.length = dirs.length) (hmn : mn.length = dirs.length) (hmx : mx.length = dirs.length)
    (hset : ∀ s ∈ set, s.objs.length = dirs.length) (hr : ∀ p ∈ mn.zip mx, p.1 ≠ p.2) :
    hypervolume eps true (flipDirs S dirs) (flipLo S mn mx) (flipHi S mn mx)
        (set.map fun s => { s with objs := flipObjs S s.objs }) =
      hypervolume eps true dirs mn mx set := by
  show hypervolume eps true _ _ _ (set.map (flipISol S)) = _ -- the statement has `flipISol S` written out
  have hdl : (flipDirs S dirs).length = dirs.length := by simp [flipDirs, hS]
  unfold hypervolume
  rw [filter_flip]
  simp only [List.isEmpty_map, List.map_map, List.filter_map, Function.comp_def, flipISol, hdl,
    checkRanges_flip eps S mn mx _ hS hmn hmx, normObjs_flipN S mn mx _ hS hmn hmx hr, hvKeep_flip S dirs _ hS rfl,
    hvInvert_flip S dirs _ hS rfl]

/-- the Euclidean distance of two normalised points does not see the flip `n ↦ 1 - n` (`flipN S`, written out) -/
theorem euclid_flipN (ops : NumOps α) (h : OpsOk ops) (S : List Bool) (x y : List α)
    (hx : x.length = S.length) (hy : y.length = S.length) :
    euclid ops (List.zipWith (fun (f : Bool) n => if f then 1 - n else n) S x)
               (List.zipWith (fun (f : Bool) n => if f then 1 - n else n) S y) = euclid ops x y := by
  generalize hk : S.length = k at hx hy
  obtain ⟨s, rfl⟩ := exists_tab hk
  obtain ⟨u, rfl⟩ := exists_tab hx
  obtain ⟨v, rfl⟩ := exists_tab hy
  simp only [zipWith_tab, Nat.min_self]
  refine euclid_tab_congr h fun i => ?_
  cases s i
  · exact .inl rfl
  · exact .inr (sub_sub_sub_cancel_left _ _ _)

/-- also when a range is degenerate; points of any length: what `S` and the bounds do not reach is cut off on both sides -/
theorem euclid_norm_flip (ops : NumOps α) (h : OpsOk ops) (S : List Bool) (mn mx : List α) (k : Nat)
    (hS : S.length = k) (hmn : mn.length = k) (hmx : mx.length = k) (x y : List α) :
    euclid ops (normObjs (flipLo S mn mx) (flipHi S mn mx) (flipObjs S x))
        (normObjs (flipLo S mn mx) (flipHi S mn mx) (flipObjs S y)) =
      euclid ops (normObjs mn mx x) (normObjs mn mx y) := by
  obtain ⟨s, rfl⟩ := exists_tab hS
  obtain ⟨lo, rfl⟩ := exists_tab hmn
  obtain ⟨hi, rfl⟩ := exists_tab hmx
  obtain ⟨m, u, rfl⟩ := exists_tab' x
  obtain ⟨m', v, rfl⟩ := exists_tab' y
  simp only [normObjs, flipLo, flipHi, flipObjs, zip_tab, zipWith_tab, Nat.min_self, Nat.min_self_assoc]
  refine euclid_tab_congr h fun i => ?_
  cases s i
  · exact .inl rfl
  · exact .inr (norm_neg_sub _ _ _ _)

/-- the sign change of the difference is undone by the toggled direction -/
theorem epsDiff_norm_flip (S dirs : List Bool) (mn mx : List α) (k : Nat)
    (hS : S.length = k) (hd : dirs.length = k) (hmn : mn.length = k) (hmx : mx.length = k) (a r : List α) :
    epsDiff (flipDirs S dirs) (normObjs (flipLo S mn mx) (flipHi S mn mx) (flipObjs S a))
        (normObjs (flipLo S mn mx) (flipHi S mn mx) (flipObjs S r)) =
      epsDiff dirs (normObjs mn mx a) (normObjs mn mx r) := by
  obtain ⟨s, rfl⟩ := exists_tab hS
  obtain ⟨d, rfl⟩ := exists_tab hd
  obtain ⟨lo, rfl⟩ := exists_tab hmn
  obtain ⟨hi, rfl⟩ := exists_tab hmx
  obtain ⟨m, u, rfl⟩ := exists_tab' a
  obtain ⟨m', v, rfl⟩ := exists_tab' r
  simp only [epsDiff, flipDirs, normObjs, flipLo, flipHi, flipObjs, zip_tab, zipWith_tab, Nat.min_self,
    Nat.min_self_assoc]
  refine congrArg _ (tab_congr fun i _ => ?_)
  cases d i <;> cases s i     -- direction, then flipped or not
  · rfl
  · exact norm_neg_sub _ _ _ _
  · rfl
  · exact norm_neg_sub _ _ _ _

theorem manhattan_flip (ops : NumOps α) (S : List Bool) (x y : List α) (k : Nat)
    (hS : S.length = k) (hx : x.length = k) (hy : y.length = k) :
    manhattan ops (flipObjs S x) (flipObjs S y) = manhattan ops x y := by
  obtain ⟨s, rfl⟩ := exists_tab hS
  obtain ⟨u, rfl⟩ := exists_tab hx
  obtain ⟨v, rfl⟩ := exists_tab hy
  simp only [manhattan, flipObjs, zipWith_tab, Nat.min_self]
  refine congrArg _ (tab_congr fun i _ => ?_)
  cases s i
  · rfl
  · rw [absA_eq, absA_eq, if_pos rfl, if_pos rfl, neg_sub_neg, abs_sub_comm]

/-- GD, IGD and ε at once: each is `(refBounds ..).map` of a value; if the value at the flipped bounds is the value at the
bounds, the indicators agree, errors included.  (`f' := id`: the flipped reference set keeps the flipped bounds.) -/
theorem refBounds_map_flip {β : Type} (ops : NumOps α) (S : List Bool) (nobjs : Nat) (ref : List (ISol α))
    {f f' : List α × List α → β} (hS : S.length = nobjs) (href : ∀ s ∈ ref, s.objs.length = nobjs)
    (hf : ∀ b : List α × List α, b.1.length = nobjs → b.2.length = nobjs → f' (flipLo S b.1 b.2, flipHi S b.1 b.2) = f b) :
    (refBounds ops nobjs (ref.map (flipISol S))).map f' = (refBounds ops nobjs ref).map f := by
  unfold refBounds
  rw [boundsOf_flip_eq S nobjs ref hS href]
  cases hb : boundsOf nobjs ref with
  | error e => rfl
  | ok b =>
    obtain ⟨hmn, hmx⟩ := boundsOf_length hb
    show ((checkRanges ops.eps (flipLo S b.1 b.2) (flipHi S b.1 b.2)).map _).map f' = ((checkRanges ops.eps b.1 b.2).map _).map f
    rw [checkRanges_flip ops.eps S b.1 b.2 nobjs hS hmn hmx]
    cases checkRanges ops.eps b.1 b.2 with
    | error e => rfl
    | ok u => exact congrArg Except.ok (hf b hmn hmx)

set_option linter.unusedVariables false in -- the members of `set` may have any length
theorem gd_flip_invariant (ops : NumOps α) (h : OpsOk ops) (S : List Bool) (nobjs : Nat) (d : α)
    (ref set : List (ISol α)) (hS : S.length = nobjs)
    (href : ∀ s ∈ ref, s.objs.length = nobjs) (hset : ∀ s ∈ set, s.objs.length = nobjs) :
    generationalDistance ops nobjs d (ref.map (flipISol S)) (set.map (flipISol S)) =
      generationalDistance ops nobjs d ref set := by
  rw [generationalDistance_eq, generationalDistance_eq]
  refine refBounds_map_flip ops S nobjs ref hS href fun b hmn hmx => ?_
  -- written as maps over the feasible members, the two sides differ in the `euclid` of each pair only
  simp only [normSet, filter_flip, meanDist, distanceToNearest, List.map_map, List.isEmpty_map, List.length_map,
    Function.comp_def, flipISol, euclid_norm_flip ops h S b.1 b.2 nobjs hS hmn hmx]

set_option linter.unusedVariables false in -- the members of `set` may have any length
theorem igd_flip_invariant (ops : NumOps α) (h : OpsOk ops) (S : List Bool) (nobjs : Nat) (d : α)
    (ref set : List (ISol α)) (hS : S.length = nobjs)
    (href : ∀ s ∈ ref, s.objs.length = nobjs) (hset : ∀ s ∈ set, s.objs.length = nobjs) :
    invertedGenerationalDistance ops nobjs d (ref.map (flipISol S)) (set.map (flipISol S)) =
      invertedGenerationalDistance ops nobjs d ref set := by
  rw [invertedGenerationalDistance_eq, invertedGenerationalDistance_eq]
  refine refBounds_map_flip ops S nobjs ref hS href fun b hmn hmx => ?_
  simp only [normSet, filter_flip, meanDist, distanceToNearest, List.map_map, List.isEmpty_map, List.length_map,
    Function.comp_def, flipISol, euclid_norm_flip ops h S b.1 b.2 nobjs hS hmn hmx]

set_option linter.unusedVariables false in -- the proof does not need `h`; the members of `set` may have any length
theorem epsIndicator_flip_invariant (ops : NumOps α) (h : OpsOk ops) (S dirs : List Bool) (nobjs : Nat)
    (ref set : List (ISol α)) (hS : S.length = nobjs) (hd : dirs.length = nobjs)
    (href : ∀ s ∈ ref, s.objs.length = nobjs) (hset : ∀ s ∈ set, s.objs.length = nobjs) :
    epsilonIndicator ops true (flipDirs S dirs) nobjs (ref.map (flipISol S)) (set.map (flipISol S)) =
      epsilonIndicator ops true dirs nobjs ref set := by
  rw [epsilonIndicator_eq, epsilonIndicator_eq]
  refine refBounds_map_flip ops S nobjs ref hS href fun b hmn hmx => ?_
  simp only [normSet, filter_flip, epsVal, List.map_map, List.isEmpty_map, Function.comp_def, flipISol,
    epsDiff_norm_flip S dirs b.1 b.2 nobjs hS hd hmn hmx]

set_option linter.unusedVariables false in -- the proof does not need `h`
theorem spacing_flip_invariant (ops : NumOps α) (h : OpsOk ops) (S : List Bool) (nobjs : Nat)
    (set : List (ISol α)) (hS : S.length = nobjs) (hset : ∀ s ∈ set, s.objs.length = nobjs) :
    spacing ops (set.map (flipISol S)) = spacing ops set := by
  have hlen : ∀ x ∈ (set.filter isFeasible).map (·.objs), x.length = nobjs :=
    List.forall_mem_map.mpr fun s hs => hset s (List.mem_of_mem_filter hs)
  have hL : ((set.map (flipISol S)).filter isFeasible).map (·.objs) = ((set.filter isFeasible).map (·.objs)).map (flipObjs S) := by
    rw [filter_flip, List.map_map, List.map_map]; rfl
  have hds := nearestOther_map ops (flipObjs S) _ fun x hx y hy => manhattan_flip ops S x y nobjs hS (hlen x hx) (hlen y hy)
  unfold nearestOther at hds -- `spacing` has this list written out
  unfold spacing
  dsimp only
  rw [hL, List.length_map, hds]

end Platypus
