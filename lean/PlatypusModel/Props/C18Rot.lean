import PlatypusModel.Model.UFRot
import Mathlib.Algebra.Order.Ring.Defs
import Mathlib.Algebra.Field.Defs
set_option linter.unusedSectionVars false
/-
C18, rotated CEC 2009 instances (UF11 = R2_DTLZ2_M5, UF12 = R3_DTLZ3_M5; `Model/UFRot.lean`, compared with
platypus/problems.py on every run).

For every rotation matrix, slope vector and summation function; of `hyp` and `exp` only `hyp 0 0 = 0`, `exp 0 = 1` or
`0 ≤ hyp a b` is assumed, where needed.  `rotTransform_inside` and `rotObjectives_no_penalty` are not composed into a
statement about `ufRot`, which exists at `Float` only.
-/
namespace Platypus.C18

section
variable {α : Type} [OfNat α 0]

/-- each `psum` is `0` with coordinates of `p`, or the default `0` of `getD`, folded in by `hyp` -/
theorem rotPenalty_inv (P : α → Prop) (hyp : α → α → α) (nobjs : Nat) (p : List α) (h0 : P 0)
    (hstep : ∀ a b, P a → b ∈ p ∨ b = 0 → P (hyp a b)) : ∀ v ∈ rotPenalty hyp nobjs p, P v := by
  have hg : ∀ j, p.getD j 0 ∈ p ∨ p.getD j 0 = 0 := fun j => by
    rw [List.getD_eq_getElem?_getD]
    cases hj : p[j]? with
    | none => exact .inr rfl
    | some v => exact .inl (List.mem_of_getElem? hj)
  unfold rotPenalty
  refine List.forall_mem_map.2 fun i _ => ?_
  have hs := List.foldlRecOn (List.range (nobjs - (i + 1))).reverse (fun acc j0 => hyp acc (p.getD j0 0))
    (List.foldlRecOn (p.drop (nobjs - 1)) hyp h0 fun a ha b hb => hstep a b ha (.inl (List.mem_of_mem_drop hb)))
    fun a ha j _ => hstep a _ ha (hg j)
  dsimp only
  split
  · exact hstep _ _ hs (hg _)
  · exact hs

end

section
variable {α : Type} [Field α] [LinearOrder α] [IsStrictOrderedRing α]

/-- a coordinate that the rotation maps into `[0, 1]` is kept and not penalised -/
theorem rotCoord_inside (sum : List α → α) (row : List α) (lam : α) (x : List α)
    (h : 0 ≤ sum (List.zipWith (· * ·) row x) ∧ sum (List.zipWith (· * ·) row x) ≤ 1) :
    rotCoord sum row lam x = (sum (List.zipWith (· * ·) row x), 0) :=
  if_pos h

theorem rotCoord_penalty_nonneg (sum : List α → α) (row : List α) (lam : α) (x : List α) :
    0 ≤ (rotCoord sum row lam x).2 := by
  unfold rotCoord
  dsimp only
  split_ifs with h1 h2
  · exact le_rfl
  · exact neg_nonneg.2 h2.le
  · exact sub_nonneg.2 (le_of_not_ge fun h => h1 ⟨not_lt.1 h2, h⟩)

/-- no penalised coordinate, no penalty: all `psum` are exactly zero -/
theorem rotPenalty_zero (hyp : α → α → α) (h0 : hyp 0 0 = 0) (nobjs : Nat) (p : List α) (hp : ∀ q ∈ p, q = 0) :
    rotPenalty hyp nobjs p = List.replicate nobjs 0 :=
  List.eq_replicate_iff.2 ⟨by rw [rotPenalty, List.length_map, List.length_range],
    rotPenalty_inv (· = 0) hyp nobjs p rfl fun a b ha hb => by rw [ha, hb.elim (hp b) id, h0]⟩

/-- where the rotation maps every coordinate into the unit cube, `_transform` returns the rotated point itself and zero
penalties -/
theorem rotTransform_inside (sum : List α → α) (hyp : α → α → α) (h0 : hyp 0 0 = 0) (M : List (List α)) (lam : List α)
    (nobjs : Nat) (x : List α)
    (hin : ∀ row ∈ M, 0 ≤ sum (List.zipWith (· * ·) row x) ∧ sum (List.zipWith (· * ·) row x) ≤ 1) :
    rotTransform sum hyp M lam nobjs x =
      (((M.zip lam).map fun (rl : List α × α) => sum (List.zipWith (· * ·) rl.1 x)), List.replicate nobjs 0) := by
  unfold rotTransform
  simp only
  rw [List.map_congr_left fun rl hrl => rotCoord_inside sum rl.1 rl.2 x (hin rl.1 (List.of_mem_zip hrl).1),
    List.map_map, List.map_map, rotPenalty_zero hyp h0]
  · rfl
  · exact List.forall_mem_map.2 fun _ _ => rfl

/-- with zero penalties the objectives are exactly the inner problem's objectives plus one -/
theorem rotObjectives_no_penalty (exp : α → α) (hexp : exp 0 = 1) (inner : List α) :
    rotObjectives exp (List.replicate inner.length 0) inner = inner.map (· + 1) := by
  have two : (2 : α) / (1 + 1) = 1 := by rw [one_add_one_eq_two, div_self two_ne_zero]
  rw [rotObjectives, ← List.map_const', List.zipWith_map_left, List.zipWith_self]
  simp only [neg_zero, hexp, two, one_mul]

/-- every accumulated penalty is non-negative as soon as `hyp` is (it is a square root) -/
theorem rotPenalty_nonneg (hyp : α → α → α) (hh : ∀ a b, 0 ≤ hyp a b) (nobjs : Nat) (p : List α) :
    ∀ v ∈ rotPenalty hyp nobjs p, 0 ≤ v :=
  rotPenalty_inv (0 ≤ ·) hyp nobjs p le_rfl fun a b _ _ => hh a b
end

/-- the hypotheses are satisfiable: the identity rotation in two variables maps (1/2, 1/4) into the unit square -/
example : rotTransform (α := Rat) List.sum (fun a b => a + b) [[1, 0], [0, 1]] [1, 1] 2 [1/2, 1/4]
    = ([1/2, 1/4], [0, 0]) := by
  decide +kernel

end Platypus.C18
