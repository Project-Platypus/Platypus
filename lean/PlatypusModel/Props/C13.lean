import PlatypusModel.Props.C08
/-!
# C13 — seeded runs are repeatable and a saved state resumes exactly

What is logic here is proved, for a deterministic step (every operator model is a *function* of state and
draw tape — there is no hidden input): composition of consecutive `run` calls, and resumption from a faithfully
saved state.  That pickle reproduces the algorithm object and the Mersenne-Twister state, and that no library
code iterates a hash ordered container, are runtime facts checked by differential runs (several interpreters /
hash seeds).
-/
namespace Platypus.C13

variable {S : Type}

theorem nfe_strictMono (step : S → S) (nfe : S → Nat) (h : Progress step nfe) (s : S) (i j : Nat) (hij : i < j) :
    nfe (step^[i] s) < nfe (step^[j] s) := by
  induction hij with
  | refl => rw [Function.iterate_succ_apply']; exact h _
  | step _ ih => rw [Function.iterate_succ_apply']; exact Nat.lt_trans ih (h _)

/-- **composition**: two consecutive calls `run(N₁); run(N₂)` end in the same state as one call whose budget
is the number of evaluations the two calls counted together -/
theorem run_split_eq_single (step : S → S) (nfe : S → Nat) (h : Progress step nfe) (N₁ N₂ : Nat) (s : S) :
    let s₁ := (run step nfe N₁ s).1
    let s₂ := (run step nfe N₂ s₁).1
    (run step nfe (nfe s₂ - nfe s) s).1 = s₂ := by
  intro s₁ s₂
  obtain ⟨k₁, k₂, h1, h2, _⟩ := run_twice step nfe h N₁ N₂ s
  have hs₂ : s₂ = step^[k₂ + k₁] s := by simp only [s₂, s₁, h1, h2]
  -- `s₂` is reached after `k₂ + k₁` steps, and, the counter being strictly increasing, at no earlier step
  rw [hs₂, run_eq_of_first_reach step nfe _ s (k₂ + k₁)]
  · exact Nat.le_sub_of_add_le' (nfe_iterate_ge step nfe h s _)
  · exact fun i hi => Nat.sub_lt_sub_right (Nat.le_of_add_right_le (nfe_iterate_ge step nfe h s i))
      (nfe_strictMono step nfe h s i _ hi)
  · exact Nat.le_refl _

/-- **resume**: continuing from a faithfully restored state (algorithm and random generator) is continuing
the original -/
theorem resume_eq_continue {F : Type} (step : S → S) (nfe : S → Nat) (save : S → F) (load : F → S)
    (hsl : ∀ s, load (save s) = s) (N : Nat) (s : S) :
    run step nfe N (load (save s)) = run step nfe N s := by rw [hsl]

/-- `Replace.mutate` before /repo commit 58c0097 took its candidates from `list(set(elements) - set(subset))`, in the
iteration order of a Python `set` (here the parameter `ord`; `i`, `j` are the two `randrange` draws).  The outcome depends
on that order, so seeded runs differed between interpreter processes.  `Replace.mutate` as it is (`replaceVars`) takes them
in declared order and has no such input. -/
def replacePinnedStep (ord : List Nat → List Nat) (n : Nat) (s : List Nat) (i j : Nat) : List Nat :=
  s.set i ((ord ((List.range n).filter (fun e => !s.contains e))).getD j 0)

theorem replace_pinned_depends_on_set_order :
    replacePinnedStep id 4 [0, 1] 0 0 ≠ replacePinnedStep List.reverse 4 [0, 1] 0 0 := by decide

end Platypus.C13
