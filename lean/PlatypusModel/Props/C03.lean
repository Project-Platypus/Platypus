import PlatypusModel.Props.C02
import Mathlib.Data.List.Induction
/-!
# C03 — a Pareto archive always equals the non-dominated subset of all it was offered

Proved for **any** comparator that is antisymmetric (`cmp y x = - cmp x y`) and whose "dominates" relation `cmp x y < 0` is
transitive (`StrictCmp`).  `paretoCompare` has the two laws among well-formed solutions only (C02), so its instance goes
through `archive_eq_filter_on`.  The ε-box comparator of C05 is *not* a `StrictCmp` (a tie inside one box answers 1 both
ways): C05 builds on the `archiveOf_*` facts, which hold of any comparator.
-/
namespace Platypus

variable {σ τ : Type}

structure StrictCmp (cmp : σ → σ → Int) : Prop where
  antisymm : ∀ x y, cmp y x = - cmp x y
  trans : ∀ x y z, cmp x y < 0 → cmp y z < 0 → cmp x z < 0

def undom (cmp : σ → σ → Int) (l : List σ) (x : σ) : Bool := l.all (fun y => decide (¬ cmp y x < 0))

theorem undom_iff (cmp : σ → σ → Int) (l : List σ) (x : σ) :
    undom cmp l x = true ↔ ∀ y ∈ l, ¬ cmp y x < 0 := by
  simp only [undom, List.all_eq_true, decide_eq_true_eq]

theorem undom_append (cmp : σ → σ → Int) (l₁ l₂ : List σ) (x : σ) :
    undom cmp (l₁ ++ l₂) x = (undom cmp l₁ x && undom cmp l₂ x) := List.all_append

theorem undom_singleton (cmp : σ → σ → Int) (s x : σ) : undom cmp [s] x = decide (¬ cmp s x < 0) :=
  Bool.and_true _

namespace StrictCmp
variable {cmp : σ → σ → Int} (h : StrictCmp cmp)
include h

theorem irrefl (x : σ) : cmp x x = 0 := by have := h.antisymm x x; omega
theorem gt_iff (s m : σ) : cmp s m > 0 ↔ cmp m s < 0 := by have := h.antisymm s m; omega
theorem zero_iff (s m : σ) : cmp s m = 0 ↔ (¬ cmp s m < 0 ∧ ¬ cmp m s < 0) := by
  have := h.antisymm s m; omega

theorem any_gt_iff (l : List σ) (s : σ) :
    l.any (fun m => cmp s m > 0) = true ↔ ∃ m ∈ l, cmp m s < 0 := by
  simp only [List.any_eq_true, decide_eq_true_eq, h.gt_iff]

end StrictCmp

theorem archiveAdd_cases (cmp : σ → σ → Int) (arch : List σ) (s : σ) :
    ((∃ m ∈ arch, cmp s m > 0) ∧ archiveAdd cmp arch s = (arch, false)) ∨
    ((∀ m ∈ arch, ¬ cmp s m > 0) ∧
      archiveAdd cmp arch s = (arch.filter (fun m => cmp s m = 0) ++ [s], true)) := by
  unfold archiveAdd
  by_cases h : arch.any (fun m => cmp s m > 0) = true
  · obtain ⟨m, hm, hgt⟩ := List.any_eq_true.mp h
    exact Or.inl ⟨⟨m, hm, of_decide_eq_true hgt⟩, if_pos h⟩
  · exact Or.inr ⟨fun m hm hgt => h (List.any_eq_true.mpr ⟨m, hm, decide_eq_true hgt⟩), if_neg h⟩

theorem archiveAdd_mem (cmp : σ → σ → Int) (arch : List σ) (s m : σ)
    (h : m ∈ (archiveAdd cmp arch s).1) : m ∈ arch ∨ m = s := by
  rcases archiveAdd_cases cmp arch s with ⟨_, e⟩ | ⟨_, e⟩ <;> rw [e] at h
  · exact Or.inl h
  · exact (List.mem_append.mp h).imp (fun h => (List.mem_filter.mp h).1) List.mem_singleton.mp

theorem archiveAdd_accept_iff (cmp : σ → σ → Int) (arch : List σ) (s : σ) :
    (archiveAdd cmp arch s).2 = true ↔ ∀ m ∈ arch, ¬ cmp s m > 0 := by
  rcases archiveAdd_cases cmp arch s with ⟨⟨m, hm, hgt⟩, h⟩ | ⟨hno, h⟩ <;> rw [h]
  · exact ⟨fun h => Bool.noConfusion h, fun h => absurd hgt (h m hm)⟩
  · exact ⟨fun _ => hno, fun _ => rfl⟩

/-- an insertion reports acceptance iff no current member dominates the newcomer -/
theorem add_accept_iff {cmp : σ → σ → Int} (h : StrictCmp cmp) (arch : List σ) (s : σ) :
    (archiveAdd cmp arch s).2 = true ↔ ∀ m ∈ arch, ¬ cmp m s < 0 := by
  simp only [archiveAdd_accept_iff, h.gt_iff]

/-- a rejected insertion leaves the archive untouched -/
theorem add_reject_unchanged (cmp : σ → σ → Int) (arch : List σ) (s : σ)
    (hr : (archiveAdd cmp arch s).2 = false) : (archiveAdd cmp arch s).1 = arch := by
  rcases archiveAdd_cases cmp arch s with ⟨_, e⟩ | ⟨_, e⟩
  · rw [e]
  · rw [e] at hr
    cases hr

/-- an accepted insertion keeps exactly the members the newcomer does not dominate, in order,
and appends the newcomer -/
theorem add_accept_contents {cmp : σ → σ → Int} (h : StrictCmp cmp) (arch : List σ) (s : σ)
    (ha : (archiveAdd cmp arch s).2 = true) :
    (archiveAdd cmp arch s).1 = arch.filter (fun m => decide (¬ cmp s m < 0)) ++ [s] := by
  have hno := (add_accept_iff h arch s).mp ha
  rcases archiveAdd_cases cmp arch s with ⟨_, e⟩ | ⟨_, e⟩ <;> rw [e] at ha ⊢
  · cases ha
  · -- no member dominates `s`, so "neither dominates" is "`s` does not dominate"
    exact congrArg (· ++ [s]) (List.filter_congr fun m hm =>
      decide_eq_decide.mpr ((h.zero_iff s m).trans (and_iff_left (hno m hm))))

theorem archiveOf_append_singleton (cmp : σ → σ → Int) (pre : List σ) (s : σ) :
    archiveOf cmp (pre ++ [s]) = (archiveAdd cmp (archiveOf cmp pre) s).1 := by
  simp [archiveOf, List.foldl_append]

theorem archiveOf_members_offered (cmp : σ → σ → Int) (xs : List σ) :
    ∀ m ∈ archiveOf cmp xs, m ∈ xs := by
  induction xs using List.reverseRecOn with
  | nil => simp [archiveOf]
  | append_singleton pre s ih =>
    intro m hm
    rw [archiveOf_append_singleton] at hm
    rcases archiveAdd_mem _ _ _ _ hm with hm | rfl
    · exact List.mem_append_left _ (ih m hm)
    · exact List.mem_append_right _ List.mem_cons_self

/-- the later member `n` answered "neither" when it was compared with the earlier member `m` -/
theorem archiveOf_pairwise_zero (cmp : σ → σ → Int) (xs : List σ) :
    (archiveOf cmp xs).Pairwise (fun m n => cmp n m = 0) := by
  induction xs using List.reverseRecOn with
  | nil => exact List.Pairwise.nil
  | append_singleton pre s ih =>
    rw [archiveOf_append_singleton]
    rcases archiveAdd_cases cmp (archiveOf cmp pre) s with ⟨_, e⟩ | ⟨_, e⟩ <;> rw [e]
    · exact ih
    · exact List.pairwise_append.mpr ⟨ih.sublist List.filter_sublist, List.pairwise_singleton _ _,
        fun m hm n hn => List.mem_singleton.mp hn ▸ of_decide_eq_true (List.mem_filter.mp hm).2⟩

/-- a rejected newcomer is covered by the member that beat it; an accepted one covers the members
it ousts and, by transitivity, whatever they covered -/
theorem archiveOf_coverage (cmp : σ → σ → Int) (P : σ → Prop) (Cov : σ → σ → Prop)
    (hrefl : ∀ a, Cov a a) (htrans : ∀ a b d, Cov a b → Cov b d → Cov a d)
    (hneg : ∀ a b, P a → P b → cmp a b < 0 → Cov a b)
    (hpos : ∀ a b, P a → P b → cmp a b > 0 → Cov b a)
    (xs : List σ) (hP : ∀ x ∈ xs, P x) :
    ∀ x ∈ xs, ∃ m ∈ archiveOf cmp xs, Cov m x := by
  induction xs using List.reverseRecOn with
  | nil => simp
  | append_singleton pre s ih =>
    have hpre : ∀ x ∈ pre, P x := fun x hx => hP x (List.mem_append_left _ hx)
    have hs : P s := hP s (by simp)
    have hmemP : ∀ m ∈ archiveOf cmp pre, P m :=
      fun m hm => hpre m (archiveOf_members_offered cmp pre m hm)
    intro x hx
    rw [archiveOf_append_singleton]
    rcases archiveAdd_cases cmp (archiveOf cmp pre) s with ⟨⟨m, hm, hgt⟩, e⟩ | ⟨hno, e⟩ <;> rw [e]
    · rcases List.mem_append.mp hx with hx | hx
      · exact ih hpre x hx
      · obtain rfl := List.mem_singleton.mp hx
        exact ⟨m, hm, hpos x m hs (hmemP m hm) hgt⟩
    · rcases List.mem_append.mp hx with hx | hx
      · obtain ⟨m, hm, hcov⟩ := ih hpre x hx
        by_cases h0 : cmp s m = 0
        · exact ⟨m, List.mem_append_left _ (List.mem_filter.mpr ⟨hm, decide_eq_true h0⟩), hcov⟩
        · have h1 : cmp s m < 0 := by have := hno m hm; omega
          exact ⟨s, List.mem_append_right _ List.mem_cons_self,
            htrans s m x (hneg s m hs (hmemP m hm) h1) hcov⟩
      · obtain rfl := List.mem_singleton.mp hx
        exact ⟨x, List.mem_append_right _ List.mem_cons_self, hrefl x⟩

/-- coverage: every offered solution is a member or is dominated by a member -/
theorem archive_coverage {cmp : σ → σ → Int} (h : StrictCmp cmp) (xs : List σ) (x : σ) (hx : x ∈ xs) :
    x ∈ archiveOf cmp xs ∨ ∃ m ∈ archiveOf cmp xs, cmp m x < 0 := by
  -- "covers" read as "is or dominates"
  obtain ⟨m, hm, rfl | hmx⟩ := archiveOf_coverage cmp (fun _ => True) (fun m x => m = x ∨ cmp m x < 0)
    (fun _ => .inl rfl)
    (fun a b d hab hbd => by
      rcases hab with rfl | hab
      · exact hbd
      · exact .inr (hbd.elim (· ▸ hab) (h.trans a b d hab)))
    (fun _ _ _ _ => .inr) (fun a b _ _ hab => .inr ((h.gt_iff a b).mp hab)) xs (fun _ _ => trivial) x hx
  exacts [.inl hm, .inr ⟨m, hm, hmx⟩]

/-- **the archive equals the non-dominated subset of everything offered**, as a list (insertion
order, duplicates and equal-objective twins kept) -/
theorem archive_eq_filter {cmp : σ → σ → Int} (h : StrictCmp cmp) (xs : List σ) :
    archiveOf cmp xs = xs.filter (undom cmp xs) := by
  induction xs using List.reverseRecOn with
  | nil => rfl
  | append_singleton pre s ih =>
    have hss : undom cmp (pre ++ [s]) s = undom cmp pre s := by
      rw [undom_append, undom_singleton, h.irrefl]
      exact Bool.and_true _
    rw [archiveOf_append_singleton, ih, List.filter_append, List.filter_cons, List.filter_nil, hss]
    -- accepted iff nothing offered before dominates it: a dominator is a member or has a member below it
    have hacc : (archiveAdd cmp (pre.filter (undom cmp pre)) s).2 = undom cmp pre s := by
      rw [Bool.eq_iff_iff, add_accept_iff h, undom_iff]
      refine ⟨fun hno y hy hys => ?_, fun hno m hm => hno m (List.mem_filter.mp hm).1⟩
      rcases ih ▸ archive_coverage h pre y hy with hm | ⟨m, hm, hmy⟩
      exacts [hno y hm hys, hno m hm (h.trans m y s hmy hys)]
    cases hs : undom cmp pre s with
    | false =>
      rw [add_reject_unchanged _ _ _ (hacc.trans hs), if_neg Bool.false_ne_true, List.append_nil]
      -- what dominates `s` would dominate whatever `s` dominates
      obtain ⟨m, hm, hms⟩ : ∃ m ∈ pre, cmp m s < 0 := by
        simpa [undom] using hs
      refine List.filter_congr fun x _ => ?_
      rw [undom_append, undom_singleton]
      cases hux : undom cmp pre x with
      | false => rfl
      | true =>
        have : ¬ cmp s x < 0 := fun hsx => (undom_iff cmp pre x).mp hux m hm (h.trans m s x hms hsx)
        exact (decide_eq_true this).symm
    | true =>
      rw [add_accept_contents h _ _ (hacc.trans hs), List.filter_filter, if_pos rfl]
      refine congrArg (· ++ [s]) (List.filter_congr fun x _ => ?_)
      rw [undom_append, undom_singleton, Bool.and_comm]

/-- membership form: exactly those offered solutions that no other offered solution dominates -/
theorem mem_archive_iff {cmp : σ → σ → Int} (h : StrictCmp cmp) (xs : List σ) (x : σ) :
    x ∈ archiveOf cmp xs ↔ x ∈ xs ∧ ∀ y ∈ xs, ¬ cmp y x < 0 := by
  rw [archive_eq_filter h, List.mem_filter, undom_iff]

/-- members are pairwise mutually non-dominated -/
theorem archive_mutually_nondominated {cmp : σ → σ → Int} (h : StrictCmp cmp) (xs : List σ)
    (a b : σ) (ha : a ∈ archiveOf cmp xs) (hb : b ∈ archiveOf cmp xs) : cmp a b = 0 := by
  rw [mem_archive_iff h] at ha hb
  exact (h.zero_iff a b).mpr ⟨hb.2 a ha.1, ha.2 b hb.1⟩

/-- in a finite list, every element is undominated or dominated by an undominated element: the archive of the list
holds one -/
theorem exists_undominated_dominator {cmp : σ → σ → Int} (h : StrictCmp cmp) (l : List σ) :
    ∀ y, (∃ z ∈ l, cmp z y < 0) → ∃ u ∈ l, undom cmp l u = true ∧ cmp u y < 0 := by
  rintro y ⟨z, hz, hzy⟩
  obtain ⟨m, hm, hmy⟩ : ∃ m ∈ archiveOf cmp l, cmp m y < 0 := by
    rcases archive_coverage h l z hz with hm | ⟨m, hm, hmz⟩
    exacts [⟨z, hm, hzy⟩, ⟨m, hm, h.trans m z y hmz hzy⟩]
  rw [archive_eq_filter h, List.mem_filter] at hm
  exact ⟨m, hm.1, hm.2, hmy⟩

/-- the final membership does not depend on the order of insertion -/
theorem archive_perm_invariant {cmp : σ → σ → Int} (h : StrictCmp cmp) (xs ys : List σ)
    (hp : xs.Perm ys) : (archiveOf cmp xs).Perm (archiveOf cmp ys) := by
  rw [archive_eq_filter h, archive_eq_filter h, show undom cmp xs = undom cmp ys from funext fun _ => hp.all_eq]
  exact hp.filter _

/-- bulk `extend` / `+=` onto an existing archive is the same fold (by definition), and feeding a
history in two pieces equals feeding it at once -/
theorem extend_eq_fold (cmp : σ → σ → Int) (xs ys : List σ) :
    archiveExtend cmp (archiveOf cmp xs) ys = archiveOf cmp (xs ++ ys) := by
  simp [archiveExtend, archiveOf, List.foldl_append]

/-! A map that preserves every comparison commutes with the archive: the flip of C10, forgetting a proof of well-formedness
(`archive_eq_filter_on`), the identity between comparators that agree on the members (`archiveAdd_congr`). -/

theorem archiveAdd_map (cmp : σ → σ → Int) (cmp' : τ → τ → Int) (g : σ → τ) (arch : List σ) (s : σ)
    (hg : ∀ m ∈ arch, cmp' (g s) (g m) = cmp s m) :
    archiveAdd cmp' (arch.map g) (g s) = ((archiveAdd cmp arch s).1.map g, (archiveAdd cmp arch s).2) := by
  have h1 : (arch.map g).any (fun m => decide (cmp' (g s) m > 0)) = arch.any (fun m => decide (cmp s m > 0)) := by
    rw [List.any_map, Bool.eq_iff_iff, List.any_eq_true, List.any_eq_true]
    exact exists_congr fun m => and_congr_right fun hm => by rw [Function.comp_apply, hg m hm]
  have h2 : (arch.map g).filter (fun m => decide (cmp' (g s) m = 0)) =
      (arch.filter (fun m => decide (cmp s m = 0))).map g := by
    rw [List.filter_map]
    exact congrArg _ (List.filter_congr fun m hm => by rw [Function.comp_apply, hg m hm])
  unfold archiveAdd
  rw [h1, h2]
  split <;> simp

theorem archiveAdd_congr (cmp cmp' : σ → σ → Int) (arch : List σ) (s : σ)
    (h : ∀ m ∈ arch, cmp s m = cmp' s m) : archiveAdd cmp arch s = archiveAdd cmp' arch s := by
  simpa using archiveAdd_map cmp' cmp id arch s h

/-- archive membership commutes with a comparison-preserving map -/
theorem archive_map_commutes (cmp : σ → σ → Int) (cmp' : τ → τ → Int) (g : σ → τ)
    (hg : ∀ a b, cmp' (g a) (g b) = cmp a b) (xs : List σ) :
    archiveOf cmp' (xs.map g) = (archiveOf cmp xs).map g := by
  induction xs using List.reverseRecOn with
  | nil => rfl
  | append_singleton pre s ih =>
    rw [List.map_append, List.map_singleton, archiveOf_append_singleton, archiveOf_append_singleton, ih,
      archiveAdd_map cmp cmp' g _ s fun m _ => hg s m]

/-- the offers paired with their proofs of `P` carry a `StrictCmp`, and the projection preserves every comparison -/
theorem archive_eq_filter_on {cmp : σ → σ → Int} (P : σ → Prop)
    (hanti : ∀ x y, P x → P y → cmp y x = - cmp x y)
    (htrans : ∀ x y z, P x → P y → P z → cmp x y < 0 → cmp y z < 0 → cmp x z < 0)
    (xs : List σ) (hxs : ∀ x ∈ xs, P x) : archiveOf cmp xs = xs.filter (undom cmp xs) := by
  have hs : StrictCmp fun a b : {x // P x} => cmp a b :=
    ⟨fun x y => hanti _ _ x.2 y.2, fun x y z => htrans _ _ _ x.2 y.2 z.2⟩
  obtain ⟨ys, rfl⟩ : ∃ ys : List {x // P x}, ys.map Subtype.val = xs :=
    ⟨xs.attachWith P hxs, List.attachWith_map_subtype_val hxs⟩
  rw [archive_map_commutes _ cmp Subtype.val fun _ _ => rfl, archive_eq_filter hs, List.filter_map]
  congr 2
  funext y
  simp only [undom, List.all_map, Function.comp_def]

section
variable {α : Type} [LinearOrder α] [Neg α] [Zero α]

/-- Pareto comparison restricted to well-formed solutions (those the archive ever sees) -/
theorem pareto_archive_eq_filter (c : Bool) (dirs : List Bool) (xs : List (Sol α))
    (hwf : ∀ x ∈ xs, WF dirs x) :
    archiveOf (paretoCompare c dirs) xs =
      xs.filter (fun x => xs.all (fun y => decide (¬ paretoCompare c dirs y x < 0))) :=
  -- the predicate of the filter is `undom (paretoCompare c dirs) xs` unfolded
  archive_eq_filter_on (WF dirs) (pareto_antisymm c dirs) (pareto_trans_lt c dirs) xs hwf
end

/-! non-vacuity: a history over `Int` with a rejection (1), an eviction (3 evicts 0 and 2) and an equal-objective twin (4) -/
example : (archiveOf (paretoCompare false [false, false])
    [(⟨0, [2, 2], 0⟩ : Sol Int), ⟨1, [3, 3], 0⟩, ⟨2, [1, 3], 0⟩, ⟨3, [1, 1], 0⟩, ⟨4, [1, 1], 0⟩,
     ⟨5, [0, 5], 0⟩]).map (·.id) = [3, 4, 5] := by decide

end Platypus
