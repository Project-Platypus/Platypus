import PlatypusModel.Props.C01
import PlatypusModel.Lemmas.C17Base
import Mathlib.Order.Defs.LinearOrder
/-!
# C07 — the user's problem function is only ever called with in-domain arguments

The invariant of accepted traces (from C01), and the producers of arguments: decoded integers (from C17), clamped reals.
`psoClamp` is defined here and is not part of the executable model; the model's `clip` is `pyClip` (`Model/Operators.lean`),
whose bounds are `pyClip_in_bounds` in `Props/C06Real.lean`.  The resampling loop of CMA-ES is not modelled.  User-supplied
operators, generators and injected populations are assumptions.
-/
namespace Platypus.C07

theorem invariant (w : World) (evs : List Event) (k : Known) (h : accept w evs = .ok k) :
    ∀ b a, Event.batch b a ∈ evs → ∀ m ∈ b, m.evaluated = false → validVals w.types m.vals = true :=
  C07_invariant w evs k h

theorem validVal_int (lo hi v : Int) : validVal (.int lo hi) (.int v) = true ↔ lo ≤ v ∧ v ≤ hi := by
  simp only [validVal, Bool.and_eq_true, decide_eq_true_eq]

theorem validVal_int_offset (lo : Int) {w v : Nat} (h : v ≤ w) : validVal (.int lo (lo + w)) (.int (lo + v)) = true :=
  (validVal_int ..).mpr ⟨Int.le_add_of_nonneg_right (Int.natCast_nonneg v), Int.add_le_add_left (Int.ofNat_le.mpr h) lo⟩

/-- whatever bit string of the declared length an operator produced, the decoded integer is in range -/
theorem int_decode_valid (lo : Int) (w : Nat) (hw : 1 ≤ w) (bits : List Bool) (hl : bits.length = nbits w) :
    ∃ v, decode w bits = some v ∧ validVal (.int lo (lo + w)) (.int (lo + v)) = true := by
  obtain ⟨v, hv, hle⟩ := decode_in_range w hw bits hl
  exact ⟨v, hv, validVal_int_offset lo hle⟩

/-- `Integer.rand()`: encoding an in-range integer gives a string of the right length that decodes back -/
theorem int_rand_valid (lo : Int) (w v : Nat) (hv : v ≤ w) :
    (encode w v).length = nbits w ∧ decode w (encode w v) = some v ∧
      validVal (.int lo (lo + w)) (.int (lo + v)) = true :=
  ⟨encode_length w v hv, decode_encode w v hv, validVal_int_offset lo hv⟩

section
variable {α : Type} [LinearOrder α]

/-- the particle-swarm position update: `if value < min: value = min elif value > max: value = max` -/
def psoClamp (lo hi v : α) : α := if v < lo then lo else if hi < v then hi else v

theorem pso_position_valid (lo hi v : α) (h : lo ≤ hi) : lo ≤ psoClamp lo hi v ∧ psoClamp lo hi v ≤ hi := by
  fun_cases psoClamp lo hi v with
  | case1 => exact ⟨le_refl _, h⟩   -- below the box
  | case2 => exact ⟨h, le_refl _⟩   -- above it
  | case3 h1 h2 => exact ⟨not_lt.mp h1, not_lt.mp h2⟩   -- inside

/-- `max(lo, min(v, hi))` lies in the box (Mathlib's `max` / `min`) -/
theorem clip_valid (lo hi v : α) (h : lo ≤ hi) : lo ≤ max lo (min v hi) ∧ max lo (min v hi) ≤ hi :=
  ⟨le_max_left _ _, max_le h (min_le_right _ _)⟩
end

example : validVal (.int 0 7) (.int 8) = false ∧ validVal (.perm 3) (.elems [0, 2, 2]) = false ∧
    validVal (.subset 5 2) (.elems [4, 4]) = false ∧ validVal (.binary 3) (.bits [true, false]) = false ∧
    validVal (.perm 3) (.elems [2, 0, 1]) = true ∧ validVal (.subset 5 2) (.elems [4, 1]) = true := by decide

end Platypus.C07
